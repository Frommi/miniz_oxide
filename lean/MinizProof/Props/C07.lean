/-
C07 — decoding can be suspended and resumed anywhere without changing the result.
Three layers, all about the hand model of `decompress_with_limit` (`Model.Core`, tied to the code by
the per-call replay `ICALL`):
 1. L0: reading a field of the bit stream is monotone in the available input (`bitsAt_mono`, …).
 2. Runs of the automaton: a run that stops starved / for lack of room reaches, when resumed over
    more input / a larger window, what the uninterrupted run reaches — every state, flat and ring.
 3. Calls: `decompress` called twice — or any number of times, with any chunks and any non-shrinking
    output grants — reports what `decompress` called once on all the input reports: status, buffer,
    counts, registers; for EVERY input, valid or not. With C03: valid raw and zlib streams decode to
    the specified bytes under every such schedule. The more-input flag may be dropped on the last
    call; a ring handed back to its start between calls agrees call by call with a flat buffer.
Not proved (compared on runs by the correspondence / oracle legs): any other change of the flags word
between calls, shrinking windows. The streaming wrapper `inflate()` on top is C13's model.
-/
import MinizProof.Spec.Inflate
import MinizProof.Lemmas.CoreGrow
import MinizProof.Lemmas.CoreSession
import MinizProof.Lemmas.CoreRingCalls
import MinizProof.Lemmas.CoreRingRun
import MinizProof.Lemmas.CoreFlags
import MinizProof.Props.C03
import MinizProof.Props.C06
import MinizProof.Lemmas.CoreRingValid
namespace C07
open Spec

def IsPrefix (a b : Array UInt8) : Prop := a.size ≤ b.size ∧ ∀ i, (h : i < a.size) → b[i]? = some a[i]

theorem getElem?_of_prefix {a b : Array UInt8} (h : IsPrefix a b) {i : Nat} {x : UInt8}
    (hx : a[i]? = some x) : b[i]? = some x := by
  have hi : i < a.size := Model.Core.getElem?_some_lt hx
  rw [h.2 i hi, ← Array.getElem?_eq_getElem hi, hx]

theorem bitAt_mono {a b : Array UInt8} (h : IsPrefix a b) {i v : Nat} (hv : bitAt a i = some v) :
    bitAt b i = some v := by
  unfold bitAt at hv ⊢
  cases hx : a[i / 8]? with
  | none => rw [hx] at hv; cases hv
  | some x => rw [getElem?_of_prefix h hx]; rw [hx] at hv; exact hv

theorem bitsAt_mono {a b : Array UInt8} (h : IsPrefix a b) (n : Nat) {i v : Nat}
    (hv : bitsAt a i n = some v) : bitsAt b i n = some v := by
  induction n generalizing i v with
  | zero => exact hv
  | succ n ih =>
    unfold bitsAt at hv ⊢
    cases hb : bitAt a i with
    | none => rw [hb] at hv; cases hv
    | some bv =>
      cases hr : bitsAt a (i + 1) n with
      | none => rw [hb, hr] at hv; cases hv
      | some rv => rw [bitAt_mono h hb, ih hr]; rw [hb, hr] at hv; exact hv

/-- A decoded symbol (and the position after it) does not depend on bytes that arrive later. -/
theorem decodeSymAux_mono {a b : Array UInt8} (h : IsPrefix a b) (c : Code) (fuel : Nat) :
    ∀ len pos code first index s p,
      decodeSymAux c a fuel len pos code first index = .sym s p →
      decodeSymAux c b fuel len pos code first index = .sym s p := by
  induction fuel with
  | zero => intro len pos code first index s p hs; cases hs
  | succ fuel ih =>
    intro len pos code first index s p hs
    by_cases hidx : index ≥ c.syms.size
    · rw [decodeSymAux, if_pos hidx] at hs; cases hs
    cases hb : bitAt a pos with
    | none => rw [decodeSymAux, if_neg hidx, hb] at hs; cases hs
    | some bv =>
      rw [Spec.decodeSymAux_bit c a _ _ _ _ _ _ (Nat.not_le.mp hidx) hb] at hs
      rw [Spec.decodeSymAux_bit c b _ _ _ _ _ _ (Nat.not_le.mp hidx) (bitAt_mono h hb)]
      by_cases hlt : code + bv < first + c.count.getD len 0
      · rw [if_pos hlt] at hs ⊢; exact hs
      · rw [if_neg hlt] at hs ⊢; exact ih _ _ _ _ _ _ _ hs

theorem decodeSym_mono {a b : Array UInt8} (h : IsPrefix a b) (c : Code) (pos s p : Nat)
    (hs : decodeSym c a pos = .sym s p) : decodeSym c b pos = .sym s p :=
  decodeSymAux_mono h c 15 1 pos 0 0 0 s p hs

/-! ### Suspension and resumption of the decoder model's automaton

`Model.Core.run e fuel c out` is the automaton of one call (`e`: offered input, flags, output window;
`c`: registers and cursors; `out`: the output buffer). `Final e c out R` says the run from `(c, out)`
ends with result `R = (status, context, buffer)`; it is unique (`Final.unique`).
The two theorems hold for EVERY register state (reachable or not), input, buffer, window and flags
word, flat and ring mode alike. They are proved state by state (`Lemmas/CoreSplit`, `CoreGrow`):
reads from a prefix of the input are reads from the whole input; a starved read leaves the bit buffer
exactly where the whole-input read passes through; a stored-block or match copy cut short by the end
of the chunk / window is completed by the resumed run in the same place (`copyIn_add`,
`copyBytes_add`, ring source positions modulo the ring size).

These two are statements about one run of the automaton. The glue of `decompress` between two calls
— the next call restarts its input cursor at 0 on the next chunk, masks the bit buffer, gives back
read-ahead bytes and updates the running Adler-32 per call — is covered by the call-level theorems
below (`two_calls_equal_one_call`, `any_number_of_calls_equal_one_call`). -/
open Model.Core in
/-- INPUT SPLIT. If the automaton run over the chunk `e.inp` stops starved ("needs more input")
    in `(c1, out1)`, then the run over the whole input `e.inp ++ b` resumed from `(c1, out1)` and the
    run over the whole input from the start end with the same result. -/
theorem resume_after_starved_input_partial (e : Env) (b : Array UInt8) (f : Nat) (c : Ctx) (out : Array UInt8)
    (c1 : Ctx) (out1 : Array UInt8) (g : Geo e c out) (h : run e f c out = (e.eoi, c1, out1))
    (R : Int × Ctx × Array UInt8) (hR : Final (e.ext b) c1 out1 R) : Final (e.ext b) c out R :=
  run_split e b f c out c1 out1 g h R hR

open Model.Core in
/-- OUTPUT SPLIT. If the run with output window end `e.outEnd` stops for lack of room ("has more
    output") in `(c1, out1)`, then the run with a larger window `E2` resumed from `(c1, out1)` and
    the run with the larger window from the start end with the same result — stored-block and match
    copies interrupted by the end of the window included, in flat and in ring mode. -/
theorem resume_after_full_window_partial (e : Env) (E2 : Nat) (hE : e.outEnd ≤ E2) (hL : e.outEnd ≤ e.outLen)
    (f : Nat) (c : Ctx) (out : Array UInt8) (c1 : Ctx) (out1 : Array UInt8) (g : Geo e c out)
    (h : run e f c out = (stHasMoreOutput, c1, out1))
    (R : Int × Ctx × Array UInt8) (hR : Final (e.grow E2) c1 out1 R) : Final (e.grow E2) c out R :=
  run_grow e E2 hE f c out c1 out1 g h R hR

open Model.Core in
/-- The result of a run is unique, so "the same result" above is THE result of the whole run. -/
theorem final_result_unique (e : Env) (c : Ctx) (out : Array UInt8) (R R' : Int × Ctx × Array UInt8)
    (h : Final e c out R) (h' : Final e c out R') : R = R' := Final.unique h h'

/-- The hypotheses are satisfiable: a run that starves inside a stored-block header, and one that
    stops with a full window inside a stored block. -/
example : (Model.Core.run { inp := #[0x01, 0x02], flags := 6, outLen := 4, outEnd := 4 } 100
    { r := {}, inPos := 0, outPos := 0 } (Array.replicate 4 0)).1 = Model.Core.stNeedsMoreInput := by decide +kernel
example : (Model.Core.run { inp := #[0x01, 0x02, 0x00, 0xfd, 0xff, 0x41, 0x42], flags := 6, outLen := 4, outEnd := 1 } 100
    { r := {}, inPos := 0, outPos := 0 } (Array.replicate 4 0)).1 = Model.Core.stHasMoreOutput := by decide +kernel

example : IsPrefix #[1, 2] #[1, 2, 3] := ⟨by decide, by intro i hi; match i, hi with | 0, _ => rfl | 1, _ => rfl⟩
example : bitsAt #[0xA5] 0 8 = some 0xA5 := by decide +kernel

/-! ### Call level: `decompress` called repeatedly against `decompress` called once

`Bnd r` is the bit-buffer discipline of the registers a call starts from (`Lemmas/CoreBnd`): the bit
buffer holds nothing above its `numBits` bits; fewer than 8 bits are buffered unless the previous call
stopped starved inside a read that needs more bits than are buffered; byte-reading states have an
empty bit buffer; the code-length code is decided by 7 bits. A fresh decoder satisfies it
(`fresh_decoder_is_disciplined`) and every suspended call re-establishes it (last conjuncts below), so
it holds at every call boundary of every call sequence that starts from a fresh decoder.
Proved from: re-basing of a run onto a longer input (`Lemmas/CoreShift`, one equation per state), the
discipline as an invariant of every transition (`Lemmas/CoreBnd`), the two run-level theorems above,
"a run that does not stop for lack of room is the same under a larger window", uniqueness and
existence of run results, and the algebra of the epilogue (Adler-32 of a concatenation).

Scope: the same flags word in every call; flat or ring buffer as long as the calls write to
consecutive positions of ONE buffer (no wrap-around between calls: a ring handed back to its start
is the last section of this file); windows never shrink. Total input consumed and
the saved registers are stated for every outcome except a failed stream (after a failure the real
decoder, too, cannot give back bytes it took in an earlier call), the registers also not for input
truncated without the more-input flag (the checksum register then differs by the first call's part). -/
open Model.Core in
theorem fresh_decoder_is_disciplined : Bnd ({} : Regs) := Bnd_fresh

open Model.Core in
/-- TWO CALLS = ONE CALL, for EVERY input (valid or not), split point, budgets and flags. -/
theorem two_calls_equal_one_call (r : Regs) (a b out : Array UInt8) (pos budget1 budget2 flags : Nat)
    (hb : Bnd r) (hg : badGeometry flags out.size pos = false)
    (hs : (decompress r a out pos budget1 flags).status = stNeedsMoreInput ∨
          (decompress r a out pos budget1 flags).status = stHasMoreOutput)
    (hbud : budget1 ≤ (decompress r a out pos budget1 flags).written + budget2) :
    let res1 := decompress r a out pos budget1 flags
    let res2 := decompress res1.r (a.extract res1.consumed a.size ++ b) res1.out (pos + res1.written) budget2 flags
    let res := decompress r (a ++ b) out pos (res1.written + budget2) flags
    res.status = res2.status ∧ res.out = res2.out ∧ res.written = res1.written + res2.written ∧
    (res.status ≠ stFailed → res.consumed = res1.consumed + res2.consumed) ∧
    (res.status ≠ stFailed → res.status ≠ stFailedCannotMakeProgress → res.r = res2.r) ∧
    Bnd res1.r ∧
    (res2.status = stNeedsMoreInput ∨ res2.status = stHasMoreOutput → Bnd res2.r) :=
  decompress_resume r a b out pos budget1 budget2 flags hb hg hs hbud

open Model.Core in
/-- ANY NUMBER OF CALLS = ONE CALL. `runCalls` is the driver: each call is offered what the previous
    call left unconsumed followed by a new chunk of any length (empty included), writes where the
    previous call stopped, and may fill the buffer up to the total grant so far. For every such
    schedule whose calls but the last are suspended, the last call reports what the single call on
    all the input with the final grant reports. -/
theorem any_number_of_calls_equal_one_call (flags pos0 : Nat) (calls : List (Array UInt8 × Nat)) (r : Regs)
    (out : Array UInt8) (pos : Nat) (carry c : Array UInt8) (g : Nat)
    (hb : Bnd r) (hg : badGeometry flags out.size pos = false) (hmono : grantsMono ((c, g) :: calls))
    (hsus : ∀ res ∈ (runCalls flags pos0 r out pos carry ((c, g) :: calls)).dropLast, suspended res)
    (last : Res) (hlast : (runCalls flags pos0 r out pos carry ((c, g) :: calls)).getLast? = some last) :
    let one := decompress r (carry ++ catChunks ((c, g) :: calls)) out pos (pos0 + lastGrant ((c, g) :: calls) - pos) flags
    one.status = last.status ∧ one.out = last.out ∧
    one.written = sumWritten (runCalls flags pos0 r out pos carry ((c, g) :: calls)) ∧
    (one.status ≠ stFailed → one.consumed = sumConsumed (runCalls flags pos0 r out pos carry ((c, g) :: calls))) ∧
    (one.status ≠ stFailed → one.status ≠ stFailedCannotMakeProgress → one.r = last.r) :=
  runCalls_last flags pos0 calls r out pos carry c g hb hg hmono hsus last hlast

open Model.Core in
/-- From a fresh decoder with a flat buffer: the last call of a schedule reports what the single call
    reports, and when that is `Done` the buffer and the counts are those of the single call. -/
theorem schedule_done_is_one_call (flags : Nat) (calls : List (Array UInt8 × Nat)) (out : Array UInt8)
    (c : Array UInt8) (g : Nat) (hflat : hasFlag flags fNonWrapping = true)
    (hmono : grantsMono ((c, g) :: calls))
    (hsus : ∀ r ∈ (runCalls flags 0 {} out 0 #[] ((c, g) :: calls)).dropLast, suspended r)
    (last : Res) (hlast : (runCalls flags 0 {} out 0 #[] ((c, g) :: calls)).getLast? = some last) :
    (decompress {} (#[] ++ catChunks ((c, g) :: calls)) out 0 (0 + lastGrant ((c, g) :: calls) - 0) flags).status = last.status ∧
    (last.status = stDone →
      (decompress {} (#[] ++ catChunks ((c, g) :: calls)) out 0 (0 + lastGrant ((c, g) :: calls) - 0) flags).out = last.out ∧
      sumWritten (runCalls flags 0 {} out 0 #[] ((c, g) :: calls)) =
        (decompress {} (#[] ++ catChunks ((c, g) :: calls)) out 0 (0 + lastGrant ((c, g) :: calls) - 0) flags).written ∧
      sumConsumed (runCalls flags 0 {} out 0 #[] ((c, g) :: calls)) =
        (decompress {} (#[] ++ catChunks ((c, g) :: calls)) out 0 (0 + lastGrant ((c, g) :: calls) - 0) flags).consumed) := by
  obtain ⟨h1, h2, h3, h4, _⟩ := any_number_of_calls_equal_one_call flags 0 calls {} out 0 #[] c g Bnd_fresh
    (badGeometry_flat hflat (Nat.zero_le _)) hmono hsus last hlast
  exact ⟨h1, fun hd => ⟨h2, h3.symm, (h4 (by rw [h1, hd]; decide)).symm⟩⟩

open Model.Core in
/-- With C03: a valid raw stream fed to a fresh decoder in ANY chunks with ANY non-shrinking grants
    (flat buffer) ends — whenever the calls before the last were suspended — with `Done`, exactly the
    specified bytes, and exactly ⌈bits/8⌉ bytes consumed in total. -/
theorem valid_stream_under_any_schedule (flags : Nat) (calls : List (Array UInt8 × Nat)) (out : Array UInt8)
    (c : Array UInt8) (g maxDist : Nat) (res : Spec.Inflated)
    (hflat : hasFlag flags fNonWrapping = true) (hz : hasFlag flags fParseZlib = false)
    (hstop : hasFlag flags fStopOnBlockBoundary = false)
    (hspec : Spec.inflateSpec (out.extract 0 0) maxDist (#[] ++ catChunks ((c, g) :: calls)) 0 = .accept res)
    (hroom : 0 + res.out.size ≤ min (0 + (0 + lastGrant ((c, g) :: calls) - 0)) out.size)
    (hmono : grantsMono ((c, g) :: calls))
    (hsus : ∀ r ∈ (runCalls flags 0 {} out 0 #[] ((c, g) :: calls)).dropLast, suspended r)
    (last : Res) (hlast : (runCalls flags 0 {} out 0 #[] ((c, g) :: calls)).getLast? = some last) :
    last.status = stDone ∧
    sumWritten (runCalls flags 0 {} out 0 #[] ((c, g) :: calls)) = res.out.size ∧
    sumConsumed (runCalls flags 0 {} out 0 #[] ((c, g) :: calls)) = (res.bitsUsed + 7) / 8 ∧
    (∀ i, i < res.out.size → last.out[0 + i]? = res.out[i]?) := by
  obtain ⟨h1, h2⟩ := schedule_done_is_one_call flags calls out c g hflat hmono hsus last hlast
  obtain ⟨o1, o2, o3, o4⟩ := C03.valid_raw_stream_decodes_one_shot {} (#[] ++ catChunks ((c, g) :: calls)) out 0
    (0 + lastGrant ((c, g) :: calls) - 0) flags maxDist res rfl fresh_shape hflat hz hstop (Nat.zero_le _) hspec hroom
  have hd : last.status = stDone := h1.symm.trans o1
  obtain ⟨e1, e2, e3⟩ := h2 hd
  exact ⟨hd, e2.trans o2, e3.trans o3, fun i hi => by rw [← e1]; exact o4 i hi⟩

open Model.Core in
/-- The same for the zlib format: header, body and the Adler-32 trailer may be cut anywhere; the
    per-call checksums compose to the checksum the trailer is compared with. -/
theorem valid_zlib_stream_under_any_schedule (flags : Nat) (calls : List (Array UInt8 × Nat)) (out : Array UInt8)
    (c : Array UInt8) (g maxDist : Nat) (zr : Spec.ZInflated)
    (hflat : hasFlag flags fNonWrapping = true) (hz : hasFlag flags fParseZlib = true)
    (hstop : hasFlag flags fStopOnBlockBoundary = false)
    (hspec : Spec.zlibSpec (out.extract 0 0) maxDist (#[] ++ catChunks ((c, g) :: calls)) true = .accept zr)
    (hroom : 0 + zr.inner.out.size ≤ min (0 + (0 + lastGrant ((c, g) :: calls) - 0)) out.size)
    (hmono : grantsMono ((c, g) :: calls))
    (hsus : ∀ r ∈ (runCalls flags 0 {} out 0 #[] ((c, g) :: calls)).dropLast, suspended r)
    (last : Res) (hlast : (runCalls flags 0 {} out 0 #[] ((c, g) :: calls)).getLast? = some last) :
    last.status = stDone ∧
    sumWritten (runCalls flags 0 {} out 0 #[] ((c, g) :: calls)) = zr.inner.out.size ∧
    sumConsumed (runCalls flags 0 {} out 0 #[] ((c, g) :: calls)) = zr.bytesUsed ∧
    (∀ i, i < zr.inner.out.size → last.out[0 + i]? = zr.inner.out[i]?) := by
  obtain ⟨h1, h2⟩ := schedule_done_is_one_call flags calls out c g hflat hmono hsus last hlast
  obtain ⟨o1, o2, o3, o4⟩ := C03.valid_zlib_stream_decodes_one_shot {} (#[] ++ catChunks ((c, g) :: calls)) out 0
    (0 + lastGrant ((c, g) :: calls) - 0) flags maxDist zr rfl fresh_shape hflat hz hstop (Nat.zero_le _) hspec hroom
  have hd : last.status = stDone := h1.symm.trans o1
  obtain ⟨e1, e2, e3⟩ := h2 hd
  exact ⟨hd, e2.trans o2, e3.trans o3, fun i hi => by rw [← e1]; exact o4 i hi⟩

/-! ### The more-input flag between calls

The call-level theorems above keep one flag word for all calls of a schedule, so a suspended call
necessarily carries `TINFL_FLAG_HAS_MORE_INPUT` (without it a starved call is a failure). Real drivers
drop the flag on the call that offers the last input (`inflate()` does for `Finish`). The flag is read
in one place only — when the input runs dry — and that is proved here from one equation per state
(`Lemmas/CoreFlags`): two calls whose flag words differ only in that flag make the same transitions,
and are the same call unless the input ran dry. -/
open Model.Core in
/-- ONE CALL, FOR EVERY INPUT AND REGISTER STATE: if the call under `fl` ends in a status other than
    the three a starved exit is reported as, the call under any `fl'` that differs from `fl` only in the
    more-input flag returns exactly the same result (status, counts, buffer, saved registers). -/
theorem more_input_flag_read_only_when_starved (fl fl' : Nat) (h : FlagsBut fl fl') (r : Regs) (inp out : Array UInt8)
    (outPos budget : Nat)
    (h1 : (decompress r inp out outPos budget fl).status ≠ stNeedsMoreInput)
    (h2 : (decompress r inp out outPos budget fl).status ≠ stHasMoreOutput)
    (h3 : (decompress r inp out outPos budget fl).status ≠ stFailedCannotMakeProgress) :
    decompress r inp out outPos budget fl' = decompress r inp out outPos budget fl :=
  decompress_flag_same h r inp out outPos budget h1 h2 h3

open Model.Core in
/-- … and a call without the flag that does not report "cannot make progress" is the call with it. -/
theorem dropping_the_more_input_flag (fl fl' : Nat) (h : FlagsBut fl fl') (hno : hasFlag fl' fHasMoreInput = false)
    (r : Regs) (inp out : Array UInt8) (outPos budget : Nat)
    (hs : (decompress r inp out outPos budget fl').status ≠ stFailedCannotMakeProgress) :
    decompress r inp out outPos budget fl = decompress r inp out outPos budget fl' :=
  decompress_drop_more h hno r inp out outPos budget hs

open Model.Core in
/-- When the call without the flag does starve, the call with the flag stopped at the same place:
    same bytes written, same counts, and a status that asks for more input or more room. -/
theorem starved_without_the_flag (fl fl' : Nat) (h : FlagsBut fl fl') (r : Regs) (inp out : Array UInt8)
    (outPos budget : Nat)
    (hs : (decompress r inp out outPos budget fl').status = stFailedCannotMakeProgress) :
    ((decompress r inp out outPos budget fl).status = stNeedsMoreInput ∨
      (decompress r inp out outPos budget fl).status = stHasMoreOutput ∨
      (decompress r inp out outPos budget fl).status = stFailedCannotMakeProgress) ∧
    (decompress r inp out outPos budget fl).out = (decompress r inp out outPos budget fl').out ∧
    (decompress r inp out outPos budget fl).consumed = (decompress r inp out outPos budget fl').consumed ∧
    (decompress r inp out outPos budget fl).written = (decompress r inp out outPos budget fl').written :=
  decompress_starved h r inp out outPos budget hs

open Model.Core in
/-- A VALID RAW STREAM UNDER ANY SCHEDULE WHOSE LAST CALL DROPS THE FLAG (`runCallsFin`: every call
    but the last under `fl`, the last under `fl'`): the driver makes exactly the calls of the one-flag
    driver, ends with `Done`, the specified bytes and ⌈bits/8⌉ bytes consumed. -/
theorem valid_stream_last_call_without_more_input (fl fl' : Nat) (hfl : FlagsBut fl fl')
    (calls : List (Array UInt8 × Nat)) (out : Array UInt8)
    (c : Array UInt8) (g maxDist : Nat) (res : Spec.Inflated)
    (hflat : hasFlag fl fNonWrapping = true) (hz : hasFlag fl fParseZlib = false)
    (hstop : hasFlag fl fStopOnBlockBoundary = false)
    (hspec : Spec.inflateSpec (out.extract 0 0) maxDist (#[] ++ catChunks ((c, g) :: calls)) 0 = .accept res)
    (hroom : 0 + res.out.size ≤ min (0 + (0 + lastGrant ((c, g) :: calls) - 0)) out.size)
    (hmono : grantsMono ((c, g) :: calls))
    (hsus : ∀ r ∈ (runCallsFin fl fl' 0 {} out 0 #[] ((c, g) :: calls)).dropLast, suspended r) :
    runCallsFin fl fl' 0 {} out 0 #[] ((c, g) :: calls) = runCalls fl 0 {} out 0 #[] ((c, g) :: calls) ∧
    ∃ last, (runCallsFin fl fl' 0 {} out 0 #[] ((c, g) :: calls)).getLast? = some last ∧
      last.status = stDone ∧
      sumWritten (runCallsFin fl fl' 0 {} out 0 #[] ((c, g) :: calls)) = res.out.size ∧
      sumConsumed (runCallsFin fl fl' 0 {} out 0 #[] ((c, g) :: calls)) = (res.bitsUsed + 7) / 8 ∧
      (∀ i, i < res.out.size → last.out[0 + i]? = res.out[i]?) := by
  rw [runCallsFin_dropLast] at hsus
  obtain ⟨last, hlast⟩ : ∃ last, (runCalls fl 0 {} out 0 #[] ((c, g) :: calls)).getLast? = some last :=
    ⟨_, List.getLast?_eq_some_getLast (List.cons_ne_nil _ _)⟩
  have o := valid_stream_under_any_schedule fl calls out c g maxDist res hflat hz hstop hspec hroom hmono hsus last hlast
  -- the last call is `Done`, so it never looked at the flag
  rw [runCallsFin_eq hfl 0 ((c, g) :: calls) {} out 0 #[] last hlast
    (by rw [o.1]; decide) (by rw [o.1]; decide) (by rw [o.1]; decide)]
  exact ⟨rfl, last, hlast, o⟩

open Model.Core in
/-- The same for the zlib format. -/
theorem valid_zlib_stream_last_call_without_more_input (fl fl' : Nat) (hfl : FlagsBut fl fl')
    (calls : List (Array UInt8 × Nat)) (out : Array UInt8)
    (c : Array UInt8) (g maxDist : Nat) (zr : Spec.ZInflated)
    (hflat : hasFlag fl fNonWrapping = true) (hz : hasFlag fl fParseZlib = true)
    (hstop : hasFlag fl fStopOnBlockBoundary = false)
    (hspec : Spec.zlibSpec (out.extract 0 0) maxDist (#[] ++ catChunks ((c, g) :: calls)) true = .accept zr)
    (hroom : 0 + zr.inner.out.size ≤ min (0 + (0 + lastGrant ((c, g) :: calls) - 0)) out.size)
    (hmono : grantsMono ((c, g) :: calls))
    (hsus : ∀ r ∈ (runCallsFin fl fl' 0 {} out 0 #[] ((c, g) :: calls)).dropLast, suspended r) :
    runCallsFin fl fl' 0 {} out 0 #[] ((c, g) :: calls) = runCalls fl 0 {} out 0 #[] ((c, g) :: calls) ∧
    ∃ last, (runCallsFin fl fl' 0 {} out 0 #[] ((c, g) :: calls)).getLast? = some last ∧
      last.status = stDone ∧
      sumWritten (runCallsFin fl fl' 0 {} out 0 #[] ((c, g) :: calls)) = zr.inner.out.size ∧
      sumConsumed (runCallsFin fl fl' 0 {} out 0 #[] ((c, g) :: calls)) = zr.bytesUsed ∧
      (∀ i, i < zr.inner.out.size → last.out[0 + i]? = zr.inner.out[i]?) := by
  rw [runCallsFin_dropLast] at hsus
  obtain ⟨last, hlast⟩ : ∃ last, (runCalls fl 0 {} out 0 #[] ((c, g) :: calls)).getLast? = some last :=
    ⟨_, List.getLast?_eq_some_getLast (List.cons_ne_nil _ _)⟩
  have o := valid_zlib_stream_under_any_schedule fl calls out c g maxDist zr hflat hz hstop hspec hroom hmono hsus last hlast
  -- the last call is `Done`, so it never looked at the flag
  rw [runCallsFin_eq hfl 0 ((c, g) :: calls) {} out 0 #[] last hlast
    (by rw [o.1]; decide) (by rw [o.1]; decide) (by rw [o.1]; decide)]
  exact ⟨rfl, last, hlast, o⟩

/-- the flag words of `inflate()`: zlib into a flat buffer, with (3 + 4) and without (1 + 4) the more-input flag -/
example : Model.Core.FlagsBut 7 5 := ⟨by decide, by decide, by decide, by decide, by decide⟩
example : Model.Core.hasFlag 5 Model.Core.fHasMoreInput = false := by decide

/-! ### Across buffer modes: a ring buffer against a flat buffer

`RingRel W base p oR oF`: the ring `oR` (size `W`, write cursor `p`, current lap started at flat
position `base`) holds the last `W` bytes of the flat buffer `oF` — below `p` the current lap, from
`p` on the previous one. `FlagsRF`: the two flags words differ only in the buffer-mode bit.
Proved from one equation per non-writing state, a content lemma per writing state (literal, stored
bytes, byte-serial match copy with the ring's modular source index), the invariant that `dist` is a
DEFLATE distance (1..32768) between the distance symbol and the end of the copy, and the epilogue.
The exception is inherent: a distance that reaches before the start of the data is rejected with a
flat buffer, while a ring (which may legitimately hold earlier history) cannot notice it. -/
open Model.Core in
/-- ONE CALL, RING = FLAT, for EVERY input and disciplined register state: unless the flat call
    reports `Failed`, the call into a ring of `W ≥ 32768` bytes reports the same status and counts and
    saves the same registers, and the ring again holds the last `W` bytes of the flat buffer. -/
theorem ring_call_equals_flat_call (r : Regs) (inp oR oF : Array UInt8) (p budget flagsR flagsF W base : Nat)
    (hb : Bnd r) (hfl : FlagsRF flagsR flagsF) (hW : oR.size = W) (hbig : 32768 ≤ W)
    (hgR : badGeometry flagsR oR.size p = false) (hbase : base + W ≤ oF.size)
    (hrel : RingRel W base p oR oF)
    (hno : (decompress r inp oF (base + p) (min budget (W - p)) flagsF).status ≠ stFailed) :
    (decompress r inp oR p budget flagsR).status = (decompress r inp oF (base + p) (min budget (W - p)) flagsF).status ∧
    (decompress r inp oR p budget flagsR).consumed = (decompress r inp oF (base + p) (min budget (W - p)) flagsF).consumed ∧
    (decompress r inp oR p budget flagsR).written = (decompress r inp oF (base + p) (min budget (W - p)) flagsF).written ∧
    (decompress r inp oR p budget flagsR).r = (decompress r inp oF (base + p) (min budget (W - p)) flagsF).r ∧
    RingRel W base (p + (decompress r inp oR p budget flagsR).written) (decompress r inp oR p budget flagsR).out
      (decompress r inp oF (base + p) (min budget (W - p)) flagsF).out :=
  decompress_ring_flat r inp oR oF p budget flagsR flagsF W base hb hfl hW hbig hgR hbase hrel hno

open Model.Core in
/-- A full ring handed back to its start (the caller has taken the `W` bytes): the relation holds
    again with the lap base moved by `W`, so the next call is again covered by the theorem above. -/
theorem ring_hand_back (W base : Nat) (oR oF : Array UInt8) (h : RingRel W base W oR oF) :
    RingRel W (base + W) 0 oR oF := h.handBack

open Model.Core in
/-- At the very start any ring is related to any flat buffer (nothing has been produced yet). -/
theorem ring_start (W : Nat) (oR oF : Array UInt8) (h : oR.size = W) : RingRel W 0 0 oR oF :=
  RingRel.start h

open Model.Core in
/-- THE RING DRIVER, call by call. `runRing`: every call is offered the unconsumed rest plus a new
    chunk and may fill the ring up to its end; a full ring is handed back to its start. As long as
    every ring call but the last is suspended and no call of the mirroring flat driver (grants: up to
    the end of the current lap) reports `Failed`, the two drivers agree call by call: status, counts,
    registers, and the bytes the caller takes out of the ring are the bytes the flat call wrote. -/
theorem ring_driver_equals_flat_driver (flagsR flagsF W : Nat) (hfl : FlagsRF flagsR flagsF) (hbig : 32768 ≤ W)
    (chunks : List (Array UInt8)) (r : Regs) (oR oF : Array UInt8) (p base : Nat) (carry : Array UInt8)
    (hb : Bnd r) (hW : oR.size = W) (hg : badGeometry flagsR W 0 = false) (hp : p < W ∨ chunks = [])
    (hrel : RingRel W base p oR oF) (hsz : base + W * (chunks.length + 1) ≤ oF.size)
    (hsus : ∀ x ∈ (runRing flagsR W r oR p carry chunks).dropLast, suspended x.1)
    (hnf : ∀ res ∈ runCalls flagsF 0 r oF (base + p) carry (ringGrants flagsR W r oR p base carry chunks),
      res.status ≠ stFailed) :
    RunsAgree (base + p) (runRing flagsR W r oR p carry chunks)
      (runCalls flagsF 0 r oF (base + p) carry (ringGrants flagsR W r oR p base carry chunks)) :=
  runRing_agrees flagsR flagsF W hfl hbig chunks r oR oF p base carry hb hW hg hp hrel hsz hsus hnf

open Model.Core in
/-- A VALID RAW STREAM THROUGH A RING, any chunking, any number of laps. A fresh decoder, a ring of
    `W ≥ 32768` bytes, the stream cut into any chunks; every ring call but the last is suspended, the
    mirroring flat driver never reports `Failed`, and the last lap reaches the end of the plaintext.
    Then the last ring call reports `Done`, the written and consumed counts add up to the plaintext
    length and the stream length, and the bytes taken out of the ring after each call, concatenated,
    are exactly the bytes the RFC reference decoder defines. -/
theorem valid_stream_through_a_ring (flagsR flagsF W maxDist : Nat) (hfl : FlagsRF flagsR flagsF) (hbig : 32768 ≤ W)
    (c : Array UInt8) (cs : List (Array UInt8)) (oR : Array UInt8) (res : Spec.Inflated)
    (hW : oR.size = W) (hg : badGeometry flagsR W 0 = false)
    (hz : hasFlag flagsR fParseZlib = false) (hstop : hasFlag flagsR fStopOnBlockBoundary = false)
    (hspec : Spec.inflateSpec #[] maxDist (catList (c :: cs)) 0 = .accept res)
    (hroom : res.out.size ≤ lastGrant (ringGrants flagsR W {} oR 0 0 #[] (c :: cs)))
    (hsus : ∀ x ∈ (runRing flagsR W {} oR 0 #[] (c :: cs)).dropLast, suspended x.1)
    (hnf : ∀ r ∈ runCalls flagsF 0 {} (Array.replicate (W * ((c :: cs).length + 1)) 0) (0 + 0) #[]
      (ringGrants flagsR W {} oR 0 0 #[] (c :: cs)), r.status ≠ stFailed)
    (lastR : Res × Nat) (hlast : (runRing flagsR W {} oR 0 #[] (c :: cs)).getLast? = some lastR) :
    lastR.1.status = stDone ∧
    ((runRing flagsR W {} oR 0 #[] (c :: cs)).map (·.1.written)).sum = res.out.size ∧
    ((runRing flagsR W {} oR 0 #[] (c :: cs)).map (·.1.consumed)).sum = (res.bitsUsed + 7) / 8 ∧
    deliveredRing (runRing flagsR W {} oR 0 #[] (c :: cs)) = res.out := by
  have T := rawFlatTheoryOf flagsF hfl.flat (hfl.zlib.trans hz) (hfl.stop.trans hstop) maxDist res
  have hv : Spec.inflateSpec #[] maxDist (catList (c :: cs) ++ #[]) 0 = .accept res := by
    rw [Array.append_empty]; exact hspec
  have hsz : (Array.replicate (W * ((c :: cs).length + 1)) (0 : UInt8)).size = W * ((c :: cs).length + 1) :=
    Array.size_replicate
  -- the plaintext fits the last grant, so the one flat call on everything supplied is `Done`
  have hfit : res.out.size ≤ min (lastGrant (ringGrants flagsR W {} oR 0 0 #[] (c :: cs)))
      (Array.replicate (W * ((c :: cs).length + 1)) (0 : UInt8)).size := by
    have hle := lastGrant_ringGrants_le flagsR W (c :: cs) {} oR 0 0 #[] (List.cons_ne_nil _ _)
    rw [hsz, Nat.mul_succ]; omega
  obtain ⟨hst, _⟩ := ring_vs_flat_call_at T hfl hbig oR hW hg c cs #[] hv hsus lastR hlast
    (Array.replicate (W * ((c :: cs).length + 1)) 0) (Nat.le_of_eq hsz.symm) _ rfl
  have hd : lastR.1.status = stDone := hst.symm.trans (T.fits _ _ _ hspec hfit).1
  obtain ⟨h1, h2, h3⟩ := ring_done_of_flat T hfl hbig oR hW hg c cs #[] hv hsus lastR hlast hd
  exact ⟨hd, h2, h3, h1⟩

/-- The flag hypotheses are satisfiable: raw ring (0 / with more input 2) against raw flat (4 / 6),
    zlib ring 1 against zlib flat 5. -/
example : Model.Core.FlagsRF 0 4 ∧ Model.Core.FlagsRF 2 6 ∧ Model.Core.FlagsRF 1 5 := by
  refine ⟨⟨?_, ?_, ?_, ?_, ?_, ?_, ?_⟩, ⟨?_, ?_, ?_, ?_, ?_, ?_, ?_⟩, ⟨?_, ?_, ?_, ?_, ?_, ?_, ?_⟩⟩ <;> decide

/-- The hypotheses are satisfiable: a stored block split inside its header with a one-byte first
    grant — first call suspended, second call `Done`. -/
example : ((Model.Core.runCalls 6 0 {} (Array.replicate 4 0) 0 #[]
    [(#[0x01, 0x02, 0x00], 1), (#[0xfd, 0xff, 0x41, 0x42], 4)]).map (·.status)) =
    [Model.Core.stNeedsMoreInput, Model.Core.stDone] := by decide +kernel

open Model.Core in
/-- THE RING DRIVER AGREES WITH ITS FLAT MIRROR ON EVERY PART OF A VALID STREAM — no hypothesis about
    the mirror: whatever part of a valid stream has been supplied and whatever the window, a call is
    never a failure (`Lemmas/CoreRingValid`, from the window theorems of C08 and the input-extension
    lemma through the call composition). -/
theorem ring_driver_on_a_valid_stream (flagsR flagsF W maxDist : Nat) (hfl : FlagsRF flagsR flagsF) (hbig : 32768 ≤ W)
    (oR oF : Array UInt8) (hW : oR.size = W) (hg : badGeometry flagsR W 0 = false)
    (hz : hasFlag flagsR fParseZlib = false) (hstop : hasFlag flagsR fStopOnBlockBoundary = false)
    (chunks : List (Array UInt8)) (b : Array UInt8) (res : Spec.Inflated)
    (hspec : Spec.inflateSpec #[] maxDist (catList chunks ++ b) 0 = .accept res)
    (hsz : W * (chunks.length + 1) ≤ oF.size)
    (hsus : ∀ x ∈ (runRing flagsR W {} oR 0 #[] chunks).dropLast, suspended x.1) :
    RunsAgree 0 (runRing flagsR W {} oR 0 #[] chunks)
      (runCalls flagsF 0 {} oF 0 #[] (ringGrants flagsR W {} oR 0 0 #[] chunks)) :=
  ring_agrees_of_flat (rawFlatTheoryOf flagsF hfl.flat (hfl.zlib.trans hz) (hfl.stop.trans hstop) maxDist res)
    hfl hbig oR oF hW hg _ hspec chunks.length chunks b rfl rfl hsz hsus

open Model.Core in
/-- A VALID RAW STREAM THROUGH A RING, TO THE END — any chunking, any number of laps, nothing assumed
    about the run except what a driver does: it goes on while calls are suspended. If the last call is
    neither suspended nor "cannot make progress" (the driver stopped for a reason of the decoder's),
    that reason is `Done`: the bytes taken out of the ring after each call, concatenated, are exactly
    the plaintext the reference decoder defines for the stream (whatever follows it in the input), and
    the consumed counts add up to its encoded length. -/
theorem valid_stream_through_a_ring_to_the_end (flagsR flagsF W : Nat) (hfl : FlagsRF flagsR flagsF) (hbig : 32768 ≤ W)
    (c : Array UInt8) (cs : List (Array UInt8)) (b : Array UInt8) (oR : Array UInt8) (res : Spec.Inflated)
    (hW : oR.size = W) (hg : badGeometry flagsR W 0 = false)
    (hz : hasFlag flagsR fParseZlib = false) (hstop : hasFlag flagsR fStopOnBlockBoundary = false)
    (hspec : Spec.inflateSpec #[] 32768 (catList (c :: cs) ++ b) 0 = .accept res)
    (hsus : ∀ x ∈ (runRing flagsR W {} oR 0 #[] (c :: cs)).dropLast, suspended x.1)
    (lastR : Res × Nat) (hlast : (runRing flagsR W {} oR 0 #[] (c :: cs)).getLast? = some lastR)
    (hstopped : ¬ suspended lastR.1) (hnc : lastR.1.status ≠ stFailedCannotMakeProgress) :
    lastR.1.status = stDone ∧
    deliveredRing (runRing flagsR W {} oR 0 #[] (c :: cs)) = res.out ∧
    ((runRing flagsR W {} oR 0 #[] (c :: cs)).map (·.1.consumed)).sum = (res.bitsUsed + 7) / 8 := by
  have T := rawFlatTheoryOf flagsF hfl.flat (hfl.zlib.trans hz) (hfl.stop.trans hstop) 32768 res
  have hd : lastR.1.status = stDone := by
    rcases ring_status_of_flat T hfl hbig oR hW hg c cs b hspec hsus lastR hlast with h | h | h | h
    · exact h
    · exact absurd (.inr h) hstopped
    · exact absurd (.inl h) hstopped
    · exact absurd h hnc
  obtain ⟨h1, _, h3⟩ := ring_done_of_flat T hfl hbig oR hW hg c cs b hspec hsus lastR hlast hd
  exact ⟨hd, h1, h3⟩

open Model.Core in
/-- … and whatever the driver does, on any part of a valid raw stream the last ring call (the earlier
    ones being suspended) ends in one of four statuses — never `Failed`, a checksum or a parameter
    error. -/
theorem ring_last_call_status_on_a_valid_stream (flagsR flagsF W maxDist : Nat) (hfl : FlagsRF flagsR flagsF) (hbig : 32768 ≤ W)
    (oR : Array UInt8) (hW : oR.size = W) (hg : badGeometry flagsR W 0 = false)
    (hz : hasFlag flagsR fParseZlib = false) (hstop : hasFlag flagsR fStopOnBlockBoundary = false)
    (c : Array UInt8) (cs : List (Array UInt8)) (b : Array UInt8) (res : Spec.Inflated)
    (hspec : Spec.inflateSpec #[] maxDist (catList (c :: cs) ++ b) 0 = .accept res)
    (hsus : ∀ x ∈ (runRing flagsR W {} oR 0 #[] (c :: cs)).dropLast, suspended x.1)
    (lastR : Res × Nat) (hlast : (runRing flagsR W {} oR 0 #[] (c :: cs)).getLast? = some lastR) :
    lastR.1.status = stDone ∨ lastR.1.status = stHasMoreOutput ∨ lastR.1.status = stNeedsMoreInput ∨
    lastR.1.status = stFailedCannotMakeProgress :=
  ring_status_of_flat (rawFlatTheoryOf flagsF hfl.flat (hfl.zlib.trans hz) (hfl.stop.trans hstop) maxDist res)
    hfl hbig oR hW hg c cs b hspec hsus lastR hlast

end C07
