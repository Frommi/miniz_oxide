/-
C06, continued — "no matter … how the input was chunked, or which entry point is used": the exact
consumed count THROUGH THE STREAMING WRAPPER `inflate()`, on the byte-level model of it
(`Model/InflBytes`, tied to the real `inflate()` by op `IFB` of the driver: status, bytes and consumed
count of every call). This file is separate from `Props/C06.lean` only because of the import order
(the wrapper theorems are built on C07, which uses C06); `bin/check C06` builds and audits both.

For the low-level decoder the single call is `C06.stream_end_consumed_exactly` /
`trailing_bytes_do_not_matter(_zlib)`, any chunking over flat calls is
`C07.valid_(zlib_)stream_under_any_schedule`, the 32 KiB ring is `C07.valid_stream_through_a_ring_to_the_end`
and `C13.valid_zlib_stream_through_a_ring_to_the_end`.
-/
import MinizProof.Props.C06
import MinizProof.Props.C13

namespace C06
open Model.Core Model.InflB Spec

/-- total input consumed by the first `k + 1` calls of a session -/
def consumedUpTo (rs : List (Nat × Nat × CallRes)) (k : Nat) : Nat := ((rs.take (k + 1)).map (·.2.2.consumed)).sum

/-- RAW STREAM THROUGH `inflate()`: whatever the chunking, the output sizes, the number of calls and
    the bytes that follow the stream (`b0`, and whatever of the later chunks lies beyond the stream),
    when a call first reports stream end the calls so far have consumed exactly `⌈bitsUsed / 8⌉` bytes —
    the byte holding the last bit of the final block is consumed and nothing after it is, so the
    caller can resume parsing its container right there. -/
theorem inflate_consumes_exactly_the_raw_stream (calls : List (Array UInt8 × Nat)) (b0 : Array UInt8) (res : Inflated)
    (hspec : inflateSpec #[] 32768 (catList (calls.map Prod.fst) ++ b0) 0 = .accept res)
    (k : Nat) (hk : k < (runInfl (Model.Infl.flagIgnoreAdler + Model.Infl.flagHasMoreInput) WB.fresh #[] calls).length)
    (hfirst : ∀ j, j < k → ((runInfl (Model.Infl.flagIgnoreAdler + Model.Infl.flagHasMoreInput) WB.fresh #[] calls)[j]?.map (·.2.2.status)) ≠ some rStreamEnd)
    (hend : ((runInfl (Model.Infl.flagIgnoreAdler + Model.Infl.flagHasMoreInput) WB.fresh #[] calls)[k]?.map (·.2.2.status)) = some rStreamEnd) :
    consumedUpTo (runInfl (Model.Infl.flagIgnoreAdler + Model.Infl.flagHasMoreInput) WB.fresh #[] calls) k = (res.bitsUsed + 7) / 8 := by
  have h := (C13.safe_stream_end res.out _ _ #[] 0 (C13.valid_raw_stream_through_inflate calls b0 res hspec) k hk hfirst hend).2.1
  rw [Nat.zero_add] at h
  exact h

/-- ZLIB STREAM THROUGH `inflate()`: at the first stream end exactly header (2) + body + trailer (4)
    bytes have been consumed, whatever the chunking (cuts inside header or trailer included) and
    whatever follows. -/
theorem inflate_consumes_exactly_the_zlib_stream (calls : List (Array UInt8 × Nat)) (b0 : Array UInt8) (zr : ZInflated)
    (hspec : zlibSpec #[] 32768 (catList (calls.map Prod.fst) ++ b0) true = .accept zr)
    (k : Nat) (hk : k < (runInfl (Model.Infl.flagParseZlib + Model.Infl.flagComputeAdler + Model.Infl.flagHasMoreInput) WB.fresh #[] calls).length)
    (hfirst : ∀ j, j < k → ((runInfl (Model.Infl.flagParseZlib + Model.Infl.flagComputeAdler + Model.Infl.flagHasMoreInput) WB.fresh #[] calls)[j]?.map (·.2.2.status)) ≠ some rStreamEnd)
    (hend : ((runInfl (Model.Infl.flagParseZlib + Model.Infl.flagComputeAdler + Model.Infl.flagHasMoreInput) WB.fresh #[] calls)[k]?.map (·.2.2.status)) = some rStreamEnd) :
    consumedUpTo (runInfl (Model.Infl.flagParseZlib + Model.Infl.flagComputeAdler + Model.Infl.flagHasMoreInput) WB.fresh #[] calls) k
      = (zr.inner.bitsUsed + 7) / 8 + 4 := by
  have h := (C13.safe_stream_end zr.inner.out _ _ #[] 0 (C13.valid_zlib_stream_through_inflate calls b0 zr hspec) k hk hfirst hend).2.1
  rw [Nat.zero_add] at h
  have hl := zlib_length #[] 32768 _ zr hspec
  unfold consumedUpTo; rw [h, hl]

/-- THE ONE-SHOT USE OF THE STREAMING API (first call with `Finish`, room for the plaintext): stream
    end with exactly the encoded length consumed — raw … -/
theorem finish_first_call_consumes_exactly_raw (z out : Array UInt8) (res : Inflated)
    (hspec : inflateSpec #[] 32768 z 0 = .accept res) (hfit : res.out.size ≤ out.size) :
    (inflateFinishFirst Model.Infl.flagIgnoreAdler z out).1.status = rStreamEnd ∧
    (inflateFinishFirst Model.Infl.flagIgnoreAdler z out).1.consumed = (res.bitsUsed + 7) / 8 :=
  let h := (C13.finish_first_call_raw z out res hspec).1 hfit
  ⟨h.1, h.2.2.2⟩

/-- … and zlib. -/
theorem finish_first_call_consumes_exactly_zlib (z out : Array UInt8) (zr : ZInflated)
    (hspec : zlibSpec #[] 32768 z true = .accept zr) (hfit : zr.inner.out.size ≤ out.size) :
    (inflateFinishFirst (Model.Infl.flagParseZlib + Model.Infl.flagComputeAdler) z out).1.status = rStreamEnd ∧
    (inflateFinishFirst (Model.Infl.flagParseZlib + Model.Infl.flagComputeAdler) z out).1.consumed = (zr.inner.bitsUsed + 7) / 8 + 4 := by
  have h := (C13.finish_first_call_zlib z out zr hspec).1 hfit
  exact ⟨h.1, by rw [h.2.2.2]; exact zlib_length #[] 32768 _ zr hspec⟩

end C06
