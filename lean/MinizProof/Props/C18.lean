/-
C18 — reset restores fresh behaviour after any history; results are deterministic.
Decided here over the PROGRAM-TEXT facts regenerated from the source (Gen/Facts.lean: the field
list of every state struct and, for every reset method, the fields it assigns or resets):
every field of the compressor's state structs is re-initialised by `reset` except the documented
settings (flags, greedy_parsing, window_bits_max, max_probes) and the constant `loop_len`; the
full inflate reset policy covers every field of `InflateState`; `ZeroReset` leaves only the data
format; `MinReset` leaves the data format AND the 32 KiB window — the latter is the known finding
D4 (a later stream whose match reaches before its start reads old bytes). A field added to a
state struct and forgotten in its reset breaks these theorems.
That the assigned values are the fresh ones and that stale tables are never read is checked per
run: arbitrary histories (abandoned, failed, finished, misused) then reset then a different
input under a seeded schedule, compared call by call with a fresh object (all policies, the
low-level `init`, the C `mz_deflateReset`).
-/
import MinizProof.Gen.Facts
namespace C18
open PT Gen.Facts

/-- Fields assigned by the reset of type `ty`, following delegation (`ZeroReset` calls `MinReset` …). -/
def assignedBy : Nat → Nat → List Nat
  | 0, _ => []
  | fuel + 1, ty =>
    (resets.filter (fun r => r.1 == ty)).flatMap (fun r => r.2.2.1 ++ r.2.2.2.flatMap (assignedBy fuel))

def fieldsOf (ty : Nat) : List Nat :=
  match findStruct structs ty with
  | some s => s.fields.map (·.name)
  | none => []

/-- Every field of `target` is assigned by the reset of `ty`, except those in `exempt`. -/
def covers (ty target : Nat) (exempt : List Nat) : Bool :=
  (fieldsOf target).all (fun f => (assignedBy 4 ty).contains f || exempt.contains f) &&
  !(fieldsOf target).isEmpty

theorem compressor_reset_covers_all_fields :
    covers ty_CompressorOxide ty_CompressorOxide [] = true ∧
    covers ty_ParamsOxide ty_ParamsOxide [fld_flags, fld_greedy_parsing, fld_window_bits_max] = true ∧
    covers ty_DictOxide ty_DictOxide [fld_max_probes, fld_loop_len] = true ∧
    covers ty_HashBuffers ty_HashBuffers [] = true := by
  decide +kernel

theorem inflate_reset_policies :
    covers ty_FullReset ty_InflateState [] = true ∧
    covers ty_ZeroReset ty_InflateState [fld_data_format] = true ∧
    covers ty_MinReset ty_InflateState [fld_dict, fld_data_format] = true ∧
    -- MinReset really does leave the window untouched (known finding D4), ZeroReset does not
    (assignedBy 4 ty_MinReset).contains fld_dict = false ∧
    (assignedBy 4 ty_ZeroReset).contains fld_dict = true := by
  decide +kernel

/-- `DecompressorOxide::init` only rewinds the automaton to `Start` (the `Start` arm then
    re-initialises the registers it reads; stale tables are overwritten before use — checked on runs). -/
theorem decoder_init_sets_state : assignedBy 4 ty_DecompressorOxide = [fld_state] := by decide +kernel

example : (fieldsOf ty_ParamsOxide).length = 18 := by decide +kernel
example : (fieldsOf ty_InflateState).length = 8 := by decide +kernel

end C18
