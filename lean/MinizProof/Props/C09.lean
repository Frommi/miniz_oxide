/-
C09 — zlib framing is produced correctly and verified on decode.
Over definitions REGENERATED from the source.
Emit side: for every header level and every window_bits a compressor can hold, the two header
bytes satisfy RFC 1950 (`Spec.zlibHeaderValid`, written from the RFC).
Decode side: `validate_zlib_header` accepts exactly the RFC-valid headers (all 65 536 of them) for
a flat buffer, and for a ring buffer additionally requires ring size ≥ declared window.
Over the decoder model: a call on a valid header and body completes only with a matching Adler-32
trailer (or under the ignore flag). Over the encoder specification of Props/C10: the reference zlib
decoder inverts the framing, in particular with every header `header_from_level` writes.
-/
import MinizProof.Gen.All
import MinizProof.Spec.Inflate
import MinizProof.Lemmas.Finite
import MinizProof.Lemmas.GenArith
import MinizProof.Lemmas.CoreZlib
import MinizProof.Lemmas.EncZlib
import MinizProof.Props.C10
open Fin'

namespace C09
open Gen.Zlib Gen.InflCore

/-- The header level derived from any flags word is one of 0..3 (so `level << 6` fits a byte). -/
theorem level_lt_four (flags : Int) : 0 ≤ zlib_level_from_flags flags ∧ zlib_level_from_flags flags < 4 := by
  unfold zlib_level_from_flags
  simp only [Id.run, pure]
  split <;> split <;> omega

/-- Emitted header: CM = 8, CINFO = max(wb,8) − 8 ≤ 7, FDICT = 0, FCHECK makes CMF·256+FLG a
    multiple of 31 (including the case where the remainder is already 0), FLEVEL = level. -/
theorem header_valid : ∀ level wb, level < 4 → wb < 16 →
    let h := header_from_level (Int.ofNat level) (Int.ofNat wb)
    Spec.zlibHeaderValid (G.idx h 0).toNat (G.idx h 1).toNat = true ∧
    (G.idx h 1).toNat / 64 = level ∧ h.size = 2 := by
  have hh : allBelow 4 (fun l => allBelow 16 (fun w =>
      let h := header_from_level (Int.ofNat l) (Int.ofNat w)
      Spec.zlibHeaderValid (G.idx h 0).toNat (G.idx h 1).toNat && ((G.idx h 1).toNat / 64 == l) && (h.size == 2))) = true := by
    decide +kernel
  intro level wb hl hw
  have := allBelow_spec (allBelow_spec hh level hl) wb hw
  simp only [Bool.and_eq_true, beq_iff_eq] at this
  exact ⟨this.1.1, this.1.2, this.2⟩

def accepts (cmf flg flags mask : Int) : Bool :=
  validate_zlib_header cmf flg flags mask == G.Action.jump State.ReadBlockHeader

def rejects (cmf flg flags mask : Int) : Bool :=
  validate_zlib_header cmf flg flags mask == G.Action.jump State.BadZlibHeader

theorem flag_clear : (G.band (.u 32) (0:Int) TINFL_FLAG_USING_NON_WRAPPING_OUTPUT_BUF == 0) = true := by decide +kernel
theorem flag_set : (G.band (.u 32) TINFL_FLAG_USING_NON_WRAPPING_OUTPUT_BUF TINFL_FLAG_USING_NON_WRAPPING_OUTPUT_BUF == 0) = false := by decide +kernel
theorem bad_ne_ok : (G.Action.jump State.BadZlibHeader == G.Action.jump State.ReadBlockHeader) = false := by decide +kernel

/-- The window the header declares, as the decoder computes it. -/
def declaredWindow (cmf : Int) : Int := 1 * G.two ^ (G.add (.u 32) (G.shr (.u 32) cmf 4) 8).toNat

/-- Ring buffer (flag clear), for EVERY cmf, flg and mask (no bound): accepted iff the flat rule
    accepts and the ring (mask + 1, as the u64 the code computes) is at least the declared window. -/
theorem validate_ring (cmf flg mask m2 : Int) :
    accepts cmf flg 0 mask =
      (accepts cmf flg TINFL_FLAG_USING_NON_WRAPPING_OUTPUT_BUF m2 &&
       !decide (G.add (.u 64) mask 1 < declaredWindow cmf)) := by
  unfold accepts validate_zlib_header declaredWindow
  simp only [Id.run, pure, flag_clear, flag_set, ↓reduceIte, Bool.false_eq_true]
  split <;> split <;> simp_all [bad_ne_ok] <;> omega

theorem declaredWindow_table : allBelow 256 (fun c => declaredWindow (Int.ofNat c) == Int.ofNat (2 ^ (c / 16 + 8))) = true := by
    decide +kernel

theorem declaredWindow_eq (cmf : Nat) (hc : cmf < 256) : declaredWindow (cmf : Int) = ((2 ^ (cmf / 16 + 8) : Nat) : Int) := by
    have := allBelow_spec declaredWindow_table cmf hc
    simp only [beq_iff_eq] at this
    exact this

/-- What the header test computes on two bytes: FCHECK, the FDICT bit, the CM nibble. -/
theorem header_fields (cmf flg : Nat) (hc : cmf < 256) (hf : flg < 256) :
    G.rem (.u 32) (G.add (.u 32) (G.mul (.u 32) (cmf:Int) 256) flg) 31 = ((cmf * 256 + flg) % 31 : Nat) ∧
    G.band (.u 32) (flg:Int) 32 = ((flg &&& 2 ^ 5 : Nat) : Int) ∧
    G.band (.u 32) (cmf:Int) 15 = ((cmf % 16 : Nat) : Int) := by
  refine ⟨?_, G.band_u32_nat flg 32 (by omega) (by omega), ?_⟩
  · have h1 : G.mul (.u 32) (cmf:Int) 256 = cmf * 256 :=
      G.wrap_u_of_lt (by omega) (by rw [G.two_pow_32]; omega)
    have h2 : G.add (.u 32) ((cmf:Int) * 256) flg = cmf * 256 + flg :=
      G.wrap_u_of_lt (by omega) (by rw [G.two_pow_32]; omega)
    rw [h1, h2, G.rem, Int.tmod_eq_emod_of_nonneg (by omega)]
    omega
  · rw [← Nat.and_two_pow_sub_one_eq_mod cmf 4]
    exact G.band_u32_nat cmf 15 (by omega) (by omega)

theorem declaredWindow_too_big (cmf : Nat) (hc : cmf < 256) : declaredWindow (cmf:Int) > 32768 ↔ 7 < cmf / 16 := by
  rw [declaredWindow_eq cmf hc, show (32768:Int) = ((2 ^ 15 : Nat) : Int) from rfl, gt_iff_lt, Int.ofNat_lt,
    Nat.pow_lt_pow_iff_right (by omega)]
  omega

theorem verdict_accepts (failed : Bool) :
    ((if failed = true then G.Action.jump State.BadZlibHeader else G.Action.jump State.ReadBlockHeader) ==
      G.Action.jump State.ReadBlockHeader) = !failed := by cases failed <;> decide
theorem verdict_rejects (failed : Bool) :
    ((if failed = true then G.Action.jump State.BadZlibHeader else G.Action.jump State.ReadBlockHeader) ==
      G.Action.jump State.BadZlibHeader) = failed := by cases failed <;> decide

/-- Flat output buffer (the mask the decoder really passes is `usize::MAX`): accepted iff RFC-valid;
    everything else goes to the `BadZlibHeader` failure state. Every pair of header bytes: each term of
    the source's test is the corresponding field of the RFC rule (`header_fields`), the 32 KiB cap is CINFO ≤ 7. -/
theorem validate_flat_iff : ∀ cmf flg : Nat, cmf < 256 → flg < 256 →
    accepts cmf flg TINFL_FLAG_USING_NON_WRAPPING_OUTPUT_BUF (G.tyMax (.u 64)) = Spec.zlibHeaderValid cmf flg ∧
    rejects cmf flg TINFL_FLAG_USING_NON_WRAPPING_OUTPUT_BUF (G.tyMax (.u 64)) = !Spec.zlibHeaderValid cmf flg := by
  intro cmf flg hc hf
  obtain ⟨h1, h2, h3⟩ := header_fields cmf flg hc hf
  have h4 := declaredWindow_too_big cmf hc
  have h5 := G.and_two_pow_ne_zero flg 5
  unfold declaredWindow at h4
  unfold accepts rejects validate_zlib_header Spec.zlibHeaderValid
  simp only [Id.run, pure, flag_set, h1, h2, h3, Bool.false_eq_true, ↓reduceIte, verdict_accepts, verdict_rejects]
  rw [← Bool.not_eq_eq_eq_not (a := _), and_self, Bool.eq_iff_iff]
  simp only [Bool.not_eq_true', Bool.or_eq_false_iff, Bool.and_eq_true, bne_eq_false_iff_eq, decide_eq_true_eq,
    decide_eq_false_iff_not]
  omega

theorem ring_mask_succ (ring : Nat) (hr0 : 0 < ring) (hr : ring < 2^64) : G.add (.u 64) ((ring - 1 : Nat) : Int) 1 = (ring : Int) := by
    rw [G.add_u64_of_lt (by omega) (by omega)]; omega

/-- Consequence for the real byte range: a ring of `ring` bytes (mask = ring − 1) accepts a header
    iff it is RFC-valid and `ring ≥ 2^(CINFO+8)`. -/
theorem validate_ring_iff : ∀ cmf flg : Nat, cmf < 256 → flg < 256 → ∀ ring : Nat, 0 < ring → ring < 2 ^ 64 →
    accepts cmf flg 0 ((ring - 1 : Nat) : Int) =
      (Spec.zlibHeaderValid cmf flg && decide (2 ^ (cmf / 16 + 8) ≤ ring)) := by
  intro cmf flg hc hf ring hr0 hr
  rw [validate_ring (cmf:Int) (flg:Int) ((ring - 1 : Nat) : Int) (G.tyMax (.u 64)), (validate_flat_iff cmf flg hc hf).1,
    declaredWindow_eq cmf hc, ring_mask_succ ring hr0 hr, ← decide_not]
  simp only [Int.ofNat_lt, Nat.not_lt]

example : Spec.zlibHeaderValid 0x78 0x9C = true := by decide +kernel
example : accepts 0x78 0x9C 0 32767 = true := by decide +kernel
example : accepts 0x78 0x9C 0 16383 = false := by decide +kernel
example : declaredWindow 0x78 = 32768 := by decide +kernel

/-! ### Decode side, over the decoder model (`Model.Core.decompress`, ICALL correspondence) -/
open Model.Core in
/-- COMPLETION ONLY WITH A MATCHING TRAILER. For every input whose zlib header is valid and whose
    DEFLATE body the RFC reference decoder accepts (flat buffer with room, decoder at Start): the
    call reports `Done` iff the four trailer bytes are the big-endian Adler-32 of exactly the bytes
    produced — any other trailer yields `Adler32Mismatch` — unless the caller set the ignore flag, in
    which case no comparison is made. Counts and bytes are the specification's in all three cases. -/
theorem zlib_trailer_is_verified (r : Regs) (inp out : Array UInt8) (outPos budget flags maxDist : Nat)
    (res : Spec.Inflated) (cmf flg a b c d : UInt8) (hstart : r.state = sStart)
    (hshape : r.rawHeader.size = 4 ∧ r.tableSizes.size = 3 ∧ r.lenCodes.size = 512)
    (hflat : hasFlag flags fNonWrapping = true) (hz : hasFlag flags fParseZlib = true)
    (hstop : hasFlag flags fStopOnBlockBoundary = false) (hpos : outPos ≤ out.size)
    (h0 : inp[0]? = some cmf) (h1 : inp[1]? = some flg) (hv : Spec.zlibHeaderValid cmf.toNat flg.toNat = true)
    (hspec : Spec.inflateSpec (out.extract 0 outPos) maxDist inp 16 = .accept res)
    (ha : inp[(res.bitsUsed + 7) / 8]? = some a) (hb : inp[(res.bitsUsed + 7) / 8 + 1]? = some b)
    (hc : inp[(res.bitsUsed + 7) / 8 + 2]? = some c) (hd : inp[(res.bitsUsed + 7) / 8 + 3]? = some d)
    (hroom : outPos + res.out.size ≤ min (outPos + budget) out.size) :
    (decompress r inp out outPos budget flags).status =
      (if hasFlag flags fIgnoreAdler = false ∧
          Spec.adler32 1 res.out.toList ≠ ((a.toNat * 256 + b.toNat) * 256 + c.toNat) * 256 + d.toNat
       then stAdler32Mismatch else stDone) ∧
    (decompress r inp out outPos budget flags).written = res.out.size ∧
    (decompress r inp out outPos budget flags).consumed = (res.bitsUsed + 7) / 8 + 4 :=
  let h := refine_zlib_flat r inp out outPos budget flags maxDist res cmf flg a b c d hstart hshape hflat hz hstop
    hpos h0 h1 hv hspec ha hb hc hd hroom
  ⟨h.1, h.2.1, h.2.2.1⟩

/-! ### The framing as an encoder specification (see Props/C10 for the DEFLATE body) -/
open Model.Core Spec in
/-- THE REFERENCE ZLIB DECODER INVERTS THE FRAMING: header bytes CMF, FLG (any RFC-valid pair), then any
    well-formed sequence of static / dynamic / stored blocks from bit 16, zero padding to the byte
    boundary, then the Adler-32 of the blocks' expansion most significant byte first — every byte
    string holding these bits is accepted by `Spec.zlibSpec` with the checksum verified, its plaintext
    is the expansion, and exactly header + body + trailer bytes are used (whatever follows). -/
theorem zlib_encoding_round_trip (cmf flg : Nat) (hc : cmf < 256) (hf : flg < 256) (hv : zlibHeaderValid cmf flg = true)
    (maxDist : Nat) (data : Array UInt8) (bs : List EncBlock) (hok : C10.StreamOk maxDist #[] bs)
    (h : HasBits data 0 (zlibBits cmf flg bs)) :
    ∃ zr, zlibSpec #[] maxDist data true = .accept zr ∧ zr.inner.out = expandBlocks #[] #[] bs ∧
      zr.bytesUsed = (16 + (blocksBits 16 bs).length + 7) / 8 + 4 :=
  zlibSpec_enc cmf flg hc hf hv maxDist data bs (hok.blocksOk maxDist bs #[]) h

open Model.Core Spec in
/-- … in particular with the header the COMPRESSOR writes (`header_from_level`, regenerated from the
    source) for every level field 0..3 and every window_bits 0..15. -/
theorem emitted_header_with_a_conforming_body_is_accepted (level wb : Nat) (hl : level < 4) (hw : wb < 16)
    (maxDist : Nat) (data : Array UInt8) (bs : List EncBlock) (hok : C10.StreamOk maxDist #[] bs)
    (h : HasBits data 0 (zlibBits (G.idx (header_from_level (Int.ofNat level) (Int.ofNat wb)) 0).toNat
      (G.idx (header_from_level (Int.ofNat level) (Int.ofNat wb)) 1).toNat bs)) :
    ∃ zr, zlibSpec #[] maxDist data true = .accept zr ∧ zr.inner.out = expandBlocks #[] #[] bs := by
  have hb : allBelow 4 (fun l => allBelow 16 (fun w =>
      decide ((G.idx (header_from_level (Int.ofNat l) (Int.ofNat w)) 0).toNat < 256) &&
      decide ((G.idx (header_from_level (Int.ofNat l) (Int.ofNat w)) 1).toNat < 256))) = true := by decide +kernel
  have hlt := allBelow_spec (allBelow_spec hb level hl) wb hw
  simp only [Bool.and_eq_true, decide_eq_true_eq] at hlt
  obtain ⟨zr, h1, h2, _⟩ := zlib_encoding_round_trip _ _ hlt.1 hlt.2 (header_valid level wb hl hw).1 maxDist data bs hok h
  exact ⟨zr, h1, h2⟩

end C09
