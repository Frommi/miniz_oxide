/-
C13 — streaming inflate obeys its status protocol and always makes progress.
Proved here over definitions REGENERATED from the source: the status classes `inflate()` branches
on (`(status as i32) < 0` selects exactly the four failure statuses; `FailedCannotMakeProgress`
is the one mapped to a buffer error), the flush values the C entry point accepts, and the data
format selected by the window-bits sign. Over the hand models of `inflate()`: the protocol for
every decoder behaviour (`Model.Infl`, counts and statuses over a scripted decoder: counts, sticky
errors, stream-end stability), and END TO END with bytes (`Model.InflB` over the decoder model
itself): a valid raw or zlib stream in any chunks with any output sizes comes out as exactly its
plaintext with exactly its bytes consumed; counts, sticky failure and progress for every input.
On the real code the protocol (counts, prefix delivery, progress, stream-end exactness and
stability, sticky data errors, recoverable starvation, Finish/Full errors, termination of the
driver loop) is checked per run: all call sequences of depth 2 (quick) / 3 (thorough) over the
64-letter alphabet of the property on valid, truncated, corrupt and trailing-byte streams, each
completed by the usual driver loop, then random long schedules.
-/
import MinizProof.Gen.All
import MinizProof.Lemmas.Finite
import MinizProof.Lemmas.InflStream
import MinizProof.Lemmas.InflBytes
import MinizProof.Lemmas.InflBytesAll
import MinizProof.Props.C09
open Fin'
namespace C13
open Gen.InflMod Gen.Lib

theorem failure_statuses_are_negative : ∀ st ∈ TINFLStatus.all,
    decide (st < 0) = (st == TINFLStatus.FailedCannotMakeProgress || st == TINFLStatus.BadParam ||
                       st == TINFLStatus.Adler32Mismatch || st == TINFLStatus.Failed) := by
  have h : allIn TINFLStatus.all (fun st => decide (st < 0) ==
      (st == TINFLStatus.FailedCannotMakeProgress || st == TINFLStatus.BadParam ||
       st == TINFLStatus.Adler32Mismatch || st == TINFLStatus.Failed)) = true := by decide +kernel
  intro st hst
  simpa using allIn_spec h st hst

/-- The C entry points accept exactly flush 0..4 (1 and 2 both mean Sync); everything else is a
    parameter error — for every i32 (symbolic). -/
theorem flush_values (f : Int) :
    MZFlush_new f = (if f = 0 then G.Res.ok MZFlush.None else if f = 1 ∨ f = 2 then G.Res.ok MZFlush.Sync
      else if f = 3 then G.Res.ok MZFlush.Full else if f = 4 then G.Res.ok MZFlush.Finish
      else G.Res.err MZError.Param) := by
  unfold MZFlush_new
  simp only [Id.run, pure, beq_iff_eq, Bool.or_eq_true]
  repeat' split
  all_goals first | rfl | omega | (simp_all; done) | (exfalso; omega)

theorem format_from_window_bits (wb : Int) :
    DataFormat_from_window_bits wb = (if wb > 0 then DataFormat.Zlib else DataFormat.Raw) := by
  unfold DataFormat_from_window_bits
  simp [Id.run, pure]

theorem error_codes : MZError.Buf = -5 ∧ MZError.Data = -3 ∧ MZError.Stream = -2 ∧ MZError.Param = -10000 ∧
    MZStatus.Ok = 0 ∧ MZStatus.StreamEnd = 1 := by decide +kernel

/-! ### Protocol theorems about the model of `inflate()` (Model/InflStream.lean), for EVERY
behaviour of the low-level decoder (any script of responses), every buffer size and every call
history — induction over the loop and over the call sequence. The model is tied to the code by
replaying the recorded inner `decompress` calls of every real `inflate()` call of the run, with
the wrapper state before and after (leg K). -/
open Model.Infl

theorem codes_match_source :
    tFailedCannotMakeProgress = TINFLStatus.FailedCannotMakeProgress ∧ tFailed = TINFLStatus.Failed ∧
    tDone = TINFLStatus.Done ∧ tNeedsMoreInput = TINFLStatus.NeedsMoreInput ∧
    (fFull : Int) = MZFlush.Full ∧ (fFinish : Int) = MZFlush.Finish ∧
    rOk = MZStatus.Ok ∧ rStreamEnd = MZStatus.StreamEnd ∧ rBuf = MZError.Buf ∧ rData = MZError.Data ∧ rStream = MZError.Stream ∧
    (flagParseZlib : Int) = Gen.InflCore.TINFL_FLAG_PARSE_ZLIB_HEADER ∧ (flagHasMoreInput : Int) = Gen.InflCore.TINFL_FLAG_HAS_MORE_INPUT ∧
    (flagNonWrapping : Int) = Gen.InflCore.TINFL_FLAG_USING_NON_WRAPPING_OUTPUT_BUF ∧
    (flagComputeAdler : Int) = Gen.InflCore.TINFL_FLAG_COMPUTE_ADLER32 ∧ (flagIgnoreAdler : Int) = Gen.InflCore.TINFL_FLAG_IGNORE_ADLER32 ∧
    (dictSize : Int) = Gen.InflCore.TINFL_LZ_DICT_SIZE := by decide +kernel

/-- Invariant of the wrapper state between calls (holds for a fresh state, preserved by every call). -/
def Inv2 (s : St) : Prop := s.Inv ∧ (s.firstCall = true → s.dictAvail = 0)

/-- What one call guarantees, whatever the decoder does. -/
structure CallPost (s : St) (inLen outLen : Nat) (s' : St) (r : Result) : Prop where
  inv     : Inv2 s'
  counts  : r.consumed ≤ inLen ∧ r.written ≤ outLen
  endDone : r.status = rStreamEnd → s'.lastStatus = tDone ∧ s'.dictAvail = 0
  dataNeg : r.status = rData → s'.lastStatus < 0 ∧ s'.lastStatus ≠ tFailedCannotMakeProgress
  okProg  : r.status = rOk → 0 < inLen → 0 < outLen → 0 < r.consumed + r.written
  fmt     : s'.fmt = s.fmt

theorem fresh_inv (fmt : Nat) : Inv2 (St.fresh fmt) :=
  ⟨⟨(by decide : 0 < 32768), (by decide : 0 + 0 ≤ 32768)⟩, fun _ => rfl⟩

/-- A call changes the window offset and the pending count only by delivering; it clears `first_call`. -/
theorem Inv2.entered {s s' : St} (h : Inv2 s) (ho : s'.dictOfs = s.dictOfs) (ha : s'.dictAvail = s.dictAvail)
    (hf : s'.firstCall = false) : Inv2 s' :=
  ⟨⟨ho ▸ h.1.1, ho ▸ ha ▸ h.1.2⟩, fun e => absurd (hf.symm.trans e) Bool.false_ne_true⟩

theorem CallPost.of_code {s s' : St} {inLen outLen : Nat} {r : Result} (inv : Inv2 s')
    (counts : r.consumed ≤ inLen ∧ r.written ≤ outLen) (fmt : s'.fmt = s.fmt)
    (h : r.status = rBuf ∨ r.status = rStream ∨
      (r.status = rData ∧ s'.lastStatus < 0 ∧ s'.lastStatus ≠ tFailedCannotMakeProgress) ∨
      (r.status = rStreamEnd ∧ s'.lastStatus = tDone ∧ s'.dictAvail = 0) ∨
      (r.status = rOk ∧ (0 < inLen → 0 < outLen → 0 < r.consumed + r.written))) : CallPost s inLen outLen s' r := by
  simp only [rBuf, rStream, rData, rStreamEnd, rOk] at h
  exact { inv := inv, counts := counts, fmt := fmt
          endDone := by unfold rStreamEnd; omega
          dataNeg := by unfold rData; omega
          okProg := by unfold rOk; omega }

/-- A full-flush request is a stream error and changes nothing. -/
theorem full_flush_is_stream_error (s : St) (inLen outLen : Nat) (script : List Resp) :
    inflate s inLen outLen fFull script = .ok s ⟨0, 0, rStream⟩ [] :=
  if_pos rfl

/-- A failed stream stays failed: with a data-error status recorded, every later call (other than
    the refused full flush) reports a data error, moves nothing, calls the decoder no more and
    keeps the status. -/
theorem data_error_sticky_step (s : St) (inLen outLen flush : Nat) (script : List Resp)
    (hneg : s.lastStatus < 0) (hne : s.lastStatus ≠ tFailedCannotMakeProgress) (hfl : flush ≠ fFull) :
    inflate s inLen outLen flush script = .ok { s with firstCall := false } ⟨0, 0, rData⟩ [] := by
  unfold inflate
  rw [if_neg hfl]
  dsimp only
  rw [if_neg hne, if_pos hneg]

/-- A finish request on input that ended early (the decoder answered cannot-make-progress) is a
    buffer error for good: every later call answers a buffer error without calling the decoder. -/
theorem cannot_progress_sticky_step (s : St) (inLen outLen flush : Nat) (script : List Resp)
    (h : s.lastStatus = tFailedCannotMakeProgress) (hfl : flush ≠ fFull) :
    inflate s inLen outLen flush script = .ok { s with firstCall := false } ⟨0, 0, rBuf⟩ [] := by
  unfold inflate
  rw [if_neg hfl]
  dsimp only
  rw [if_pos h]

theorem call_post (s : St) (inLen outLen flush : Nat) (script : List Resp) (s' : St) (r : Result) (cs : List Call)
    (hinv : Inv2 s) (h : inflate s inLen outLen flush script = .ok s' r cs) : CallPost s inLen outLen s' r := by
  have zero : (0 : Nat) ≤ inLen ∧ (0 : Nat) ≤ outLen := ⟨Nat.zero_le _, Nat.zero_le _⟩
  by_cases hfl : flush = fFull
  · rw [hfl, full_flush_is_stream_error] at h; cases h
    exact .of_code hinv zero rfl (.inr (.inl rfl))
  by_cases h1 : s.lastStatus = tFailedCannotMakeProgress
  · rw [cannot_progress_sticky_step s inLen outLen flush script h1 hfl] at h; cases h
    exact .of_code (hinv.entered rfl rfl rfl) zero rfl (.inl rfl)
  by_cases h2 : s.lastStatus < 0
  · rw [data_error_sticky_step s inLen outLen flush script h2 h1 hfl] at h; cases h
    exact .of_code (hinv.entered rfl rfl rfl) zero rfl (.inr (.inr (.inl ⟨rfl, h2, h1⟩)))
  by_cases h3 : s.hasFlushed = true ∧ flush ≠ fFinish
  · rw [inflate_after_finish inLen outLen script hfl h1 h2 h3] at h; cases h
    exact .of_code (hinv.entered rfl rfl rfl) zero rfl (.inr (.inl rfl))
  by_cases h4 : flush = fFinish ∧ s.firstCall = true
  · -- first call with Finish: one decoder call straight into the caller's buffer
    obtain ⟨rfl, hfc⟩ := h4
    rw [inflate_finish_first inLen outLen script h1 h2 hfc] at h
    cases script with
    | nil => cases h
    | cons x xs =>
      dsimp only at h
      by_cases hb : x.ib > inLen ∨ x.ob > outLen
      · rw [if_pos hb] at h; cases h
      rw [if_neg hb] at h
      have hc : x.ib ≤ inLen ∧ x.ob ≤ outLen := by omega
      by_cases g1 : x.st = tFailedCannotMakeProgress
      · rw [if_pos g1] at h; cases h
        exact .of_code (hinv.entered rfl rfl rfl) hc rfl (.inl rfl)
      rw [if_neg g1] at h
      by_cases g2 : x.st < 0
      · rw [if_pos g2] at h; cases h
        exact .of_code (hinv.entered rfl rfl rfl) hc rfl (.inr (.inr (.inl ⟨rfl, g2, g1⟩)))
      rw [if_neg g2] at h
      by_cases g3 : x.st ≠ tDone
      · rw [if_pos g3] at h; cases h
        exact .of_code (hinv.entered rfl rfl rfl) hc rfl (.inl rfl)
      · rw [if_neg g3] at h; cases h
        exact .of_code (hinv.entered rfl rfl rfl) hc rfl (.inr (.inr (.inr (.inl ⟨rfl, Decidable.of_not_not g3, hinv.2 hfc⟩))))
  by_cases h5 : s.dictAvail ≠ 0
  · -- pending bytes from an earlier call are delivered first
    rw [inflate_pending inLen outLen script hfl h1 h2 h3 h4 h5] at h
    have hpd := pushDictOut_spec { s with firstCall := false, hasFlushed := s.hasFlushed || flush == fFinish } outLen hinv.1.2
    generalize pushDictOut { s with firstCall := false, hasFlushed := s.hasFlushed || flush == fFinish } outLen = p at h hpd
    obtain ⟨n, s2⟩ := p
    obtain ⟨hn1, _, hav, ho, hsum, _, hfmt, _, hfc, hfull⟩ := hpd
    cases h
    refine .of_code ⟨⟨ho, hsum⟩, fun e => absurd (hfc.symm.trans e) Bool.false_ne_true⟩ ⟨Nat.zero_le _, hn1⟩ hfmt ?_
    by_cases hd : s2.lastStatus = tDone ∧ s2.dictAvail = 0
    · exact .inr (.inr (.inr (.inl ⟨if_pos hd, hd⟩)))
    · -- all that was pending went out, or the room was filled
      refine .inr (.inr (.inr (.inr ⟨if_neg hd, fun _ hout => ?_⟩)))
      have hav : s2.dictAvail = s.dictAvail - n := hav
      show 0 < 0 + n
      by_cases hz : s2.dictAvail = 0
      · omega
      · have := hfull hz; omega
  · have hp := loop_post flush _ inLen script _ inLen outLen 0 0 [] s' r cs (by exact hinv.1.1)
      ((inflate_loop inLen outLen script hfl h1 h2 h3 h4 h5).symm.trans h)
    refine .of_code ⟨hp.inv, fun e => absurd (hp.same.2.2.symm.trans e) Bool.false_ne_true⟩
      ⟨by have := hp.cHi; omega, by have := hp.wHi; omega⟩ hp.same.1 ?_
    rcases hp.status with e | e | e | ⟨e, g⟩
    · exact .inl e
    · exact .inr (.inr (.inl e))
    · exact .inr (.inr (.inr (.inl e)))
    · exact .inr (.inr (.inr (.inr ⟨e, by omega⟩)))

/-- A sequence of calls, each with its own decoder script. -/
structure Req where
  inLen  : Nat
  outLen : Nat
  flush  : Nat
  script : List Resp

def runCalls : St → List Req → Option (St × List Result)
  | s, [] => some (s, [])
  | s, q :: qs =>
    match inflate s q.inLen q.outLen q.flush q.script with
    | .ok s' r _ => (runCalls s' qs).map (fun p => (p.1, r :: p.2))
    | _ => none

/-- Induction over the call sequence, once: a property of the wrapper state that every call keeps
    holds of the last state, and what every call then guarantees of its result holds of every result. -/
theorem runCalls_inv {I : St → Prop} {Q : Req → Result → Prop}
    (step : ∀ s q s' r cs, I s → inflate s q.inLen q.outLen q.flush q.script = .ok s' r cs → I s' ∧ Q q r) :
    ∀ (reqs : List Req) (s sf : St) (rs : List Result), I s → runCalls s reqs = some (sf, rs) →
    I sf ∧ rs.length = reqs.length ∧ ∀ i (h1 : i < reqs.length) (h2 : i < rs.length), Q reqs[i] rs[i] := by
  intro reqs
  induction reqs with
  | nil =>
    intro s sf rs hi h
    cases h
    exact ⟨hi, rfl, fun i h1 => absurd h1 (Nat.not_lt_zero _)⟩
  | cons q qs ih =>
    intro s sf rs hi h
    rw [runCalls] at h
    cases heq : inflate s q.inLen q.outLen q.flush q.script with
    | ok s' r cs =>
      rw [heq] at h; dsimp only at h
      obtain ⟨hi', hq⟩ := step s q s' r cs hi heq
      cases hrec : runCalls s' qs with
      | none => rw [hrec] at h; cases h
      | some p =>
        rw [hrec] at h; cases h
        obtain ⟨hf, hlen, hall⟩ := ih s' p.1 p.2 hi' hrec
        refine ⟨hf, congrArg (· + 1) hlen, fun i h1 h2 => ?_⟩
        cases i with
        | zero => exact hq
        | succ j => exact hall j (Nat.lt_of_succ_lt_succ h1) (Nat.lt_of_succ_lt_succ h2)
    | stuck cs => rw [heq] at h; cases h
    | contract => rw [heq] at h; cases h

/-- Every reachable state satisfies the invariant and every call of every history keeps its
    counts within the offered buffers — induction over the call sequence. -/
theorem history_counts_bounded : ∀ (reqs : List Req) (s sf : St) (rs : List Result),
    Inv2 s → runCalls s reqs = some (sf, rs) →
    Inv2 sf ∧ rs.length = reqs.length ∧
    ∀ i (h1 : i < reqs.length) (h2 : i < rs.length), rs[i].consumed ≤ reqs[i].inLen ∧ rs[i].written ≤ reqs[i].outLen :=
  runCalls_inv fun s _ s' r cs hi h => ⟨(call_post s _ _ _ _ s' r cs hi h).inv, (call_post s _ _ _ _ s' r cs hi h).counts⟩

/-- Data errors are sticky over whole histories: once the recorded status is a data error, every
    later result is a data error (or the stream error of a refused full flush), with nothing moved. -/
theorem data_error_sticky : ∀ (reqs : List Req) (s sf : St) (rs : List Result),
    s.lastStatus < 0 → s.lastStatus ≠ tFailedCannotMakeProgress → runCalls s reqs = some (sf, rs) →
    ∀ r ∈ rs, (r.status = rData ∨ r.status = rStream) ∧ r.consumed = 0 ∧ r.written = 0 := by
  intro reqs s sf rs hneg hne h r hr
  obtain ⟨i, hi, rfl⟩ := List.getElem_of_mem hr
  have key := runCalls_inv (I := fun s => s.lastStatus < 0 ∧ s.lastStatus ≠ tFailedCannotMakeProgress)
    (Q := fun _ r => (r.status = rData ∨ r.status = rStream) ∧ r.consumed = 0 ∧ r.written = 0)
    (fun s q s' r cs hs h => by
      by_cases hfl : q.flush = fFull
      · rw [hfl, full_flush_is_stream_error] at h; cases h; exact ⟨hs, .inr rfl, rfl, rfl⟩
      · rw [data_error_sticky_step s _ _ _ _ hs.1 hs.2 hfl] at h; cases h; exact ⟨hs, .inl rfl, rfl, rfl⟩)
    reqs s sf rs ⟨hneg, hne⟩ h
  exact key.2.2 i (key.2.1 ▸ hi) hi

/-- Stream end is stable: once it has been reported (status Done recorded, nothing pending) and
    the decoder keeps answering Done with nothing moved (C05: a finished decoder stays finished),
    every later call with a legal flush reports stream end again with nothing consumed or written. -/
theorem stream_end_stable (s : St) (inLen outLen flush : Nat) (rest : List Resp)
    (hd : s.lastStatus = tDone) (ha : s.dictAvail = 0) (hfc : s.firstCall = false)
    (hfl : flush ≠ fFull) (hlegal : s.hasFlushed = true → flush = fFinish) (hofs : s.dictOfs < dictSize) :
    ∃ s' cs, inflate s inLen outLen flush (⟨tDone, 0, 0⟩ :: rest) = .ok s' ⟨0, 0, rStreamEnd⟩ cs ∧
      s'.lastStatus = tDone ∧ s'.dictAvail = 0 := by
  generalize hs1 : ({ s with firstCall := false, hasFlushed := s.hasFlushed || flush == fFinish } : St) = s1
  have hp : pushDictOut { s1 with lastStatus := tDone, dictAvail := 0 } outLen =
      (0, { s1 with lastStatus := tDone, dictAvail := 0, dictOfs := (s1.dictOfs + 0) % dictSize }) := by
    unfold pushDictOut; rw [Nat.zero_min]; rfl
  have hx : loopExit flush inLen tDone 0 (inLen - 0) (outLen - 0) = some rStreamEnd := by
    unfold loopExit
    rw [if_neg (by decide), if_neg (by decide), if_neg (fun h => absurd h.1 (by decide))]
    by_cases hf : flush = fFinish
    · rw [if_pos hf, if_pos rfl, if_neg (fun h => h rfl)]
    · rw [if_neg hf, if_pos (.inl rfl), if_pos ⟨rfl, rfl⟩]
  rw [inflate_loop inLen outLen _ hfl (by rw [hd]; decide) (by rw [hd]; decide) (fun h => h.2 (hlegal h.1))
    (fun h => by rw [hfc] at h; exact absurd h.2 Bool.false_ne_true) (fun h => h ha), hs1,
    loop_cons (r := ⟨tDone, 0, 0⟩) (fun h => h.elim (Nat.not_lt_zero _) (Nat.not_lt_zero _)) hp, hx]
  exact ⟨_, _, rfl, rfl, rfl⟩

-- non-vacuity: a fresh raw-format state, a decoder that delivers 5 bytes and finishes
example : inflate (St.fresh 2) 10 100 0 [⟨tDone, 7, 5⟩] =
    .ok { dictOfs := 5, dictAvail := 0, firstCall := false, hasFlushed := false, lastStatus := tDone, fmt := 2 }
        ⟨7, 5, rStreamEnd⟩ [(10, 0, dictSize, flagIgnoreAdler + flagHasMoreInput)] := by decide
example : Inv2 (St.fresh 0) := fresh_inv 0

/-! ### The wrapper WITH its bytes, end to end (Model/InflBytes, Lemmas/InflBytes)

`Model.InflB.inflateNone` is `inflate()` for calls that do not ask to finish, over the decoder model
itself (`Model.Core.decompress`, the 32 KiB window an array, bytes handed to the caller); op `IFB` of
the driver replays real `inflate()` sessions through it on every run. `runInfl` is a caller: each
call is offered what the previous one left unconsumed followed by a new chunk, with any amount of
output room. -/
open Model.Core Model.InflB Spec in
/-- the flag word `inflate()` builds for a RAW stream on a call that does not ask to finish
    (`format_flags(Raw) | TINFL_FLAG_HAS_MORE_INPUT` = ignore-adler + more-input) has the ring theory
    of raw streams; its flat twin is the same word with the non-wrapping flag -/
theorem raw_wrapper_flags (res : Inflated) :
    RingTheory (Model.Infl.flagIgnoreAdler + Model.Infl.flagHasMoreInput)
      (fun z => inflateSpec #[] 32768 z 0 = .accept res) res.out ((res.bitsUsed + 7) / 8) :=
  ringTheory_of_flat (rawFlatTheory 70 (by decide) (by decide) (by decide) res)
    ⟨by decide, by decide, by decide, by decide, by decide, by decide, by decide⟩ (by decide) (by decide)

open Model.Core Model.InflB Spec in
/-- … and the word it builds for a ZLIB stream (`PARSE_ZLIB_HEADER | COMPUTE_ADLER32 | HAS_MORE_INPUT`)
    has the ring theory of zlib streams -/
theorem zlib_wrapper_flags (zr : ZInflated) :
    RingTheory (Model.Infl.flagParseZlib + Model.Infl.flagComputeAdler + Model.Infl.flagHasMoreInput)
      (fun z => zlibSpec #[] 32768 z true = .accept zr) zr.inner.out zr.bytesUsed :=
  ringTheory_of_flat (zlibFlatTheory 15 (by decide) (by decide) (by decide) zr)
    ⟨by decide, by decide, by decide, by decide, by decide, by decide, by decide⟩ (by decide) (by decide)

open Model.Core Spec in
/-- A VALID ZLIB STREAM THROUGH A RING, TO THE END (the zlib counterpart of
    `C07.valid_stream_through_a_ring_to_the_end`; stated here because it comes out of the same
    format-independent derivation, `Lemmas/CoreRingTheory`): a ring of `W ≥ 32768` bytes, any
    chunking (cuts inside header and trailer included), any number of laps, nothing assumed about
    the run except that the driver went on while calls were suspended. The last call ends in one of
    four statuses; if that is `Done`, the bytes taken out of the ring after each call, concatenated,
    are exactly the plaintext of the stream and the calls together consumed exactly the stream's bytes
    (header, body, trailer), whatever follows it in the input. -/
theorem valid_zlib_stream_through_a_ring_to_the_end (flagsR flagsF W : Nat) (hfl : FlagsRF flagsR flagsF) (hbig : 32768 ≤ W)
    (c : Array UInt8) (cs : List (Array UInt8)) (b : Array UInt8) (oR : Array UInt8) (zr : ZInflated)
    (hW : oR.size = W) (hg : badGeometry flagsR W 0 = false)
    (hz : hasFlag flagsR fParseZlib = true) (hstop : hasFlag flagsR fStopOnBlockBoundary = false)
    (hspec : zlibSpec #[] 32768 (catList (c :: cs) ++ b) true = .accept zr)
    (hsus : ∀ x ∈ (runRing flagsR W {} oR 0 #[] (c :: cs)).dropLast, suspended x.1)
    (lastR : Res × Nat) (hlast : (runRing flagsR W {} oR 0 #[] (c :: cs)).getLast? = some lastR) :
    (lastR.1.status = stDone ∨ lastR.1.status = stHasMoreOutput ∨ lastR.1.status = stNeedsMoreInput ∨
      lastR.1.status = stFailedCannotMakeProgress) ∧
    (lastR.1.status = stDone → deliveredRing (runRing flagsR W {} oR 0 #[] (c :: cs)) = zr.inner.out ∧
      ((runRing flagsR W {} oR 0 #[] (c :: cs)).map (·.1.consumed)).sum = zr.bytesUsed) := by
  have T := zlibFlatTheory flagsF hfl.flat (by rw [hfl.zlib]; exact hz) (by rw [hfl.stop]; exact hstop) zr
  exact ⟨ring_status_of_flat T hfl hbig oR hW hg c cs b hspec hsus lastR hlast, fun hd =>
    have h := ring_done_of_flat T hfl hbig oR hW hg c cs b hspec hsus lastR hlast hd
    ⟨h.1, h.2.2⟩⟩

open Model.Core Model.InflB Spec in
/-- A VALID RAW STREAM THROUGH `inflate()`, ANY CHUNKING, ANY OUTPUT SIZES, ANY NUMBER OF CALLS
    (none asking to finish), whatever follows the stream in the input (`b0`), however often the
    window laps. `Safe` (Lemmas/InflBytes) says of every call up to and including the first that
    reports stream end: its status is Ok, StreamEnd or — only if it was offered no input at all — a
    buffer error (never a data error); it consumed no more than it was offered and handed over no
    more than there was room for; offered input and room it made progress or ended the stream;
    everything handed over so far is a prefix of the plaintext the reference decoder defines; and
    when it reports stream end, everything handed over IS that plaintext AND the input consumed over
    all calls so far is exactly the length of the stream (`(bitsUsed + 7) / 8` bytes for raw, header +
    body + trailer for zlib: the stream's last byte is consumed, nothing after it ever is). Induction over the call
    sequence with the invariant `WInv`: between calls the wrapper is the ring driver of C07
    (`Running`: its inner calls are `runRing`'s calls, delivered + pending = what the ring driver
    delivered) or is draining the tail of a finished stream; the loop never runs out of the fuel the
    model gives it. -/
theorem valid_raw_stream_through_inflate (calls : List (Array UInt8 × Nat)) (b0 : Array UInt8) (res : Inflated)
    (hspec : inflateSpec #[] 32768 (catList (calls.map Prod.fst) ++ b0) 0 = .accept res) :
    Safe res.out ((res.bitsUsed + 7) / 8) #[] 0 (runInfl (Model.Infl.flagIgnoreAdler + Model.Infl.flagHasMoreInput) WB.fresh #[] calls) :=
  run_safe (raw_wrapper_flags res) b0 calls WB.fresh #[] #[] 0 (WInv.fresh hspec)

open Model.Core Model.InflB Spec in
/-- THE SAME FOR A VALID ZLIB STREAM (header, body, Adler-32 trailer; what `inflate()` is mostly used
    for): any chunking — cuts inside the header or the trailer included —, any output sizes, any
    number of calls, whatever follows the stream. -/
theorem valid_zlib_stream_through_inflate (calls : List (Array UInt8 × Nat)) (b0 : Array UInt8) (zr : ZInflated)
    (hspec : zlibSpec #[] 32768 (catList (calls.map Prod.fst) ++ b0) true = .accept zr) :
    Safe zr.inner.out zr.bytesUsed #[] 0
      (runInfl (Model.Infl.flagParseZlib + Model.Infl.flagComputeAdler + Model.Infl.flagHasMoreInput) WB.fresh #[] calls) :=
  run_safe (zlib_wrapper_flags zr) b0 calls WB.fresh #[] #[] 0 (WInv.fresh hspec)

open Model.Core Model.InflB Spec in
/-- THE FIRST-CALL `Finish` SHORTCUT (`inflate(fresh state, whole input, output, Finish)`, the path
    `decompress_to_vec`-style one-shot users of the streaming API take): for a valid raw stream with
    room for its plaintext the call reports stream end and has written exactly the plaintext; with
    less room it reports a buffer error and the state remembers `Failed` (no later call can succeed). -/
theorem finish_first_call_raw (z out : Array UInt8) (res : Inflated)
    (hspec : inflateSpec #[] 32768 z 0 = .accept res) :
    (res.out.size ≤ out.size → (inflateFinishFirst Model.Infl.flagIgnoreAdler z out).1.status = Model.InflB.rStreamEnd ∧
      (inflateFinishFirst Model.Infl.flagIgnoreAdler z out).1.out = res.out ∧
      (inflateFinishFirst Model.Infl.flagIgnoreAdler z out).2 = stDone ∧
      (inflateFinishFirst Model.Infl.flagIgnoreAdler z out).1.consumed = (res.bitsUsed + 7) / 8) ∧
    (out.size < res.out.size → (inflateFinishFirst Model.Infl.flagIgnoreAdler z out).1.status = Model.InflB.rBuf ∧
      (inflateFinishFirst Model.Infl.flagIgnoreAdler z out).2 = stFailed) :=
  finish_first_ok (rawFlatTheory (Model.Infl.flagIgnoreAdler + fNonWrapping) (by decide) (by decide) (by decide) res) z out hspec

open Model.Core Model.InflB Spec in
/-- … and for a valid zlib stream. -/
theorem finish_first_call_zlib (z out : Array UInt8) (zr : ZInflated)
    (hspec : zlibSpec #[] 32768 z true = .accept zr) :
    (zr.inner.out.size ≤ out.size →
      (inflateFinishFirst (Model.Infl.flagParseZlib + Model.Infl.flagComputeAdler) z out).1.status = Model.InflB.rStreamEnd ∧
      (inflateFinishFirst (Model.Infl.flagParseZlib + Model.Infl.flagComputeAdler) z out).1.out = zr.inner.out ∧
      (inflateFinishFirst (Model.Infl.flagParseZlib + Model.Infl.flagComputeAdler) z out).2 = stDone ∧
      (inflateFinishFirst (Model.Infl.flagParseZlib + Model.Infl.flagComputeAdler) z out).1.consumed = zr.bytesUsed) ∧
    (out.size < zr.inner.out.size →
      (inflateFinishFirst (Model.Infl.flagParseZlib + Model.Infl.flagComputeAdler) z out).1.status = Model.InflB.rBuf ∧
      (inflateFinishFirst (Model.Infl.flagParseZlib + Model.Infl.flagComputeAdler) z out).2 = stFailed) :=
  finish_first_ok (zlibFlatTheory (Model.Infl.flagParseZlib + Model.Infl.flagComputeAdler + fNonWrapping) (by decide) (by decide) (by decide) zr) z out hspec

open Model.Core Model.InflB Spec in
/-- what `Safe` says, spelled out for the first call that reports stream end: all the plaintext has been
    handed over, exactly `L` bytes of input — the encoded length of the stream — have been consumed, and
    STREAM END IS STABLE: every later call of the session, whatever it is offered, reports stream end
    again, consumes nothing and hands over nothing (`Lemmas/CoreDone`: `Done` is absorbing for the
    decoder model, the zlib checksum comparison included; `ended_call`) -/
theorem safe_stream_end (P : Array UInt8) (L : Nat) : ∀ (rs : List (Nat × Nat × Model.InflB.CallRes)) (D : Array UInt8) (C : Nat), Model.Core.Safe P L D C rs →
    ∀ k, k < rs.length → (∀ j, j < k → (rs[j]?.map (·.2.2.status)) ≠ some Model.InflB.rStreamEnd) →
      (rs[k]?.map (·.2.2.status)) = some Model.InflB.rStreamEnd →
      D ++ Model.InflB.delivered (rs.take (k + 1)) = P ∧
      C + ((rs.take (k + 1)).map (·.2.2.consumed)).sum = L ∧
      (∀ x ∈ rs.drop (k + 1), x.2.2.status = Model.InflB.rStreamEnd ∧ x.2.2.consumed = 0 ∧ x.2.2.out = #[]) := by
  intro rs D C hs k hk hbefore hend
  obtain ⟨_, _, _, _, _, h⟩ := Model.Core.safe_at hs hk hbefore
  rw [List.getElem?_eq_getElem hk, Option.map_some, Option.some.injEq] at hend
  replace h := (if_pos hend).mp h
  rw [List.take_succ_eq_append_getElem hk, Model.InflB.delivered_concat, ← Array.append_assoc, List.map_append,
    List.sum_append, ← Nat.add_assoc]
  simpa using h

/-- … and for every call before that: no data error, counts within bounds, a prefix of the plaintext. -/
theorem safe_every_call (P : Array UInt8) (L : Nat) : ∀ (rs : List (Nat × Nat × Model.InflB.CallRes)) (D : Array UInt8) (C : Nat), Model.Core.Safe P L D C rs →
    ∀ k, k < rs.length → (∀ j, j < k → (rs[j]?.map (·.2.2.status)) ≠ some Model.InflB.rStreamEnd) →
      ∀ n room r, rs[k]? = some (n, room, r) →
        r.status ≠ Model.InflB.rData ∧ r.consumed ≤ n ∧ r.out.size ≤ room ∧
        (r.status = Model.InflB.rBuf → n = 0) ∧
        Model.Core.IsPrefix (D ++ Model.InflB.delivered (rs.take (k + 1))) P := by
  intro rs D C hs k hk hbefore n room r hget
  have h := Model.Core.safe_at hs hk hbefore
  rw [List.getElem?_eq_getElem hk, Option.some.injEq] at hget
  rw [List.take_succ_eq_append_getElem hk, Model.InflB.delivered_concat, ← Array.append_assoc, hget]
  rw [hget] at h
  obtain ⟨hst, hc, ho, _, hpre, _⟩ := h
  refine ⟨?_, hc, ho, ?_, hpre⟩
  · rcases hst with h | h | h
    · rw [h]; decide
    · rw [h]; decide
    · rw [h.1]; decide
  · intro hb
    rcases hst with h | h | h
    · rw [h] at hb; exact absurd hb (by decide)
    · rw [h] at hb; exact absurd hb (by decide)
    · exact h.2

open Model.Core Model.InflB Spec in
/-- ENCODER SPECIFICATION → STREAMING WRAPPER, END TO END: take any well-formed sequence of static,
    dynamic and stored blocks (any tokens, any valid code lengths, any header run-length coding), frame
    it as zlib with any RFC-valid header pair, cut the bytes holding that encoding into any chunks and
    feed them through `inflate()` with any output sizes: what comes out is, call by call, a prefix of
    the LZ77 expansion of the blocks' tokens and, at the first stream end, exactly that expansion, with
    exactly the bytes of the encoding (2 header bytes, the padded body, 4 trailer bytes) consumed.
    (`C09.zlib_encoding_round_trip` + `valid_zlib_stream_through_inflate`.) -/
theorem conforming_zlib_encoding_through_inflate (cmf flg : Nat) (hc : cmf < 256) (hf : flg < 256)
    (hv : zlibHeaderValid cmf flg = true) (bs : List EncBlock) (hok : C10.StreamOk 32768 #[] bs)
    (calls : List (Array UInt8 × Nat)) (b0 : Array UInt8)
    (h : HasBits (catList (calls.map Prod.fst) ++ b0) 0 (zlibBits cmf flg bs)) :
    Safe (expandBlocks #[] #[] bs) ((16 + (blocksBits 16 bs).length + 7) / 8 + 4) #[] 0
      (runInfl (Model.Infl.flagParseZlib + Model.Infl.flagComputeAdler + Model.Infl.flagHasMoreInput) WB.fresh #[] calls) := by
  obtain ⟨zr, hacc, hout, hused⟩ := C09.zlib_encoding_round_trip cmf flg hc hf hv 32768 _ bs hok h
  rw [← hout, ← hused]
  exact valid_zlib_stream_through_inflate calls b0 zr hacc

open Model.Core Model.InflB in
/-- FOR EVERY INPUT — valid, truncated, corrupt, anything — every flag word and every sequence of calls
    on the byte-level model: no call consumes more than it was offered or hands over more than there
    was room for. (Induction over the loop and the call list with the window geometry as invariant;
    the decoder's own bounds are C05 / C08.) -/
theorem counts_within_buffers_for_every_input (flags : Nat) (calls : List (Array UInt8 × Nat)) :
    ∀ x ∈ runInfl flags WB.fresh #[] calls, x.2.2.consumed ≤ x.1 ∧ x.2.2.out.size ≤ x.2.1 :=
  runInfl_counts flags calls WB.fresh #[] fresh_geo

open Model.Core Model.InflB in
/-- A RECORDED DECODER FAILURE IS STICKY, with bytes: whatever is offered afterwards, the call consumes
    nothing, hands over nothing, leaves the state as it is and reports the same error again (a data
    error; a buffer error for "cannot make progress"). -/
theorem failure_is_sticky_with_bytes (flags : Nat) (w : WB) (inp : Array UInt8) (room : Nat) (hf : w.last < 0) :
    (inflateNone flags w inp room).1 = w ∧ (inflateNone flags w inp room).2.consumed = 0 ∧
    (inflateNone flags w inp room).2.out = #[] ∧
    (inflateNone flags w inp room).2.status = (if w.last = stFailedCannotMakeProgress then Model.InflB.rBuf else Model.InflB.rData) :=
  inflateNone_failed_sticky flags w inp room hf

open Model.Core Model.InflB in
/-- PROGRESS OR A TERMINAL RESULT, FOR EVERY INPUT: a call of the byte-level model that is offered at
    least one byte of input and one byte of room — on any state with a well-formed window, whatever the
    input bytes are, whatever happened before — consumes something, hands something over, or returns
    stream end / a data error / a buffer error. (`flags`: any flag word without the block-boundary stop,
    as `inflate()` builds them.) -/
theorem progress_or_terminal_for_every_input (flags : Nat) (hstop : hasFlag flags fStopOnBlockBoundary = false) (w : WB)
    (inp : Array UInt8) (room : Nat) (hg : WGeo w) (hi : 0 < inp.size) (hr : 0 < room) :
    0 < (inflateNone flags w inp room).2.consumed ∨ 0 < (inflateNone flags w inp room).2.out.size ∨
    (inflateNone flags w inp room).2.status = Model.InflB.rStreamEnd ∨ (inflateNone flags w inp room).2.status = Model.InflB.rData ∨
    (inflateNone flags w inp room).2.status = Model.InflB.rBuf :=
  inflateNone_progress flags hstop w inp room hg hi hr

-- non-vacuity: a stored block "hi" (final), fed in two calls with one byte of room, then plenty
example : (Model.InflB.runInfl 66 Model.InflB.WB.fresh #[] [(#[0x01, 0x02, 0x00], 1), (#[0xfd, 0xff, 0x68, 0x69], 1), (#[], 5)]).map
    (fun r => (r.1, r.2.1, r.2.2.consumed, r.2.2.out, r.2.2.status)) = [(3, 1, 3, #[], 0), (4, 1, 4, #[0x68], 0), (0, 5, 0, #[0x69], 1)] := by decide +kernel

-- the same stream in a zlib wrapper, cut inside the header and inside the trailer
example : (Model.InflB.runInfl 11 Model.InflB.WB.fresh #[] [(#[0x78], 4), (#[0x9c, 0x01, 0x02, 0x00, 0xfd, 0xff, 0x68, 0x69, 0x01, 0x3b], 1), (#[0x00, 0xd2, 0xaa], 5), (#[], 5)]).map
    (fun r => (r.1, r.2.1, r.2.2.consumed, r.2.2.out, r.2.2.status)) =
    [(1, 4, 1, #[], 0), (10, 1, 10, #[0x68], 0), (3, 5, 0, #[0x69], 0), (3, 5, 2, #[], 1)] := by decide +kernel

end C13
