/-
C02 — streaming compression is lossless under every call schedule and configuration.
Proved here, over definitions REGENERATED from the source: the usage guard of `compress_inner`
(Finish is sticky; a failed compressor stays failed); the 64-bit bit buffer and the LZ code buffer
of the token engines cannot overflow; every engine exit stores its cached registers back. Over the
hand model of the output staging (`Model.DeflOut`, engines scripted): conservation of bytes over
every history, counts within the offered space, the status protocol. The engines themselves are
covered by the correspondence and oracle legs; see DESIGN.md §7 C02 for what remains by contract.
-/
import MinizProof.Gen.All
import MinizProof.Gen.Facts
import MinizProof.Lemmas.Finite
import MinizProof.Lemmas.DeflOut
open Fin'

namespace C02
open Gen.DeflCore

/-- The guard rejects exactly when the previous call did not end `Okay`, or Finish was requested
    earlier and the current request is not Finish — for all 4 statuses × 8 × 8 flush modes. -/
theorem finish_sticky_guard :
    ∀ st ∈ TDEFLStatus.all, ∀ prev ∈ TDEFLFlush.all, ∀ cur ∈ TDEFLFlush.all,
      guard_rejects st prev cur =
        (st != TDEFLStatus.Okay || (prev == TDEFLFlush.Finish && cur != TDEFLFlush.Finish)) := by
  have h : allIn TDEFLStatus.all (fun st => allIn TDEFLFlush.all (fun prev => allIn TDEFLFlush.all (fun cur =>
      guard_rejects st prev cur ==
        (st != TDEFLStatus.Okay || (prev == TDEFLFlush.Finish && cur != TDEFLFlush.Finish))))) = true := by
    decide +kernel
  intro st hst prev hp cur hc
  have := allIn_spec (allIn_spec (allIn_spec h st hst) prev hp) cur hc
  simpa using this

/-- A legal schedule (previous status Okay, Finish kept once issued) is never rejected. -/
theorem legal_never_rejected :
    ∀ prev ∈ TDEFLFlush.all, ∀ cur ∈ TDEFLFlush.all,
      (prev = TDEFLFlush.Finish → cur = TDEFLFlush.Finish) →
      guard_rejects TDEFLStatus.Okay prev cur = false := by
  intro prev hp cur hc hlegal
  rw [finish_sticky_guard _ (by decide +kernel) prev hp cur hc]
  by_cases h : prev = TDEFLFlush.Finish
  · simp [h, hlegal h]
  · simp [h]

/-- The eight flush modes and four statuses have the discriminants the C header documents. -/
theorem discriminants :
    TDEFLFlush.all = [0, 1, 2, 3, 4, 5, 6, 7] ∧ TDEFLStatus.all = [-2, -1, 0, 1] := by decide +kernel

def maxOf (a : Array Int) : Int := a.foldl max 0

/-- `compress_lz_codes` accumulates codes in a 64-bit buffer and flushes whole bytes after each
    group, leaving at most 7 bits pending. With the code-size limits REGENERATED from the calls to
    `optimize_table`, the extra-bit tables and the literal batch size of the source, the largest
    group (a batch of literals, or one length + distance pair with their extra bits) always fits:
    7 + max(batch·15, 15 + 5 + 15 + 13) ≤ 64. A larger batch silently drops bits in release builds. -/
theorem lz_bitbuffer_never_overflows :
    let codeMax := max (maxOf DYN_CODE_SIZE_LIMITS) (maxOf STATIC_CODE_SIZE_LIMITS)
    7 + max (LZ_LITERAL_BATCH * codeMax)
            (codeMax + maxOf LEN_EXTRA + codeMax + max (maxOf SMALL_DIST_EXTRA) (maxOf LARGE_DIST_EXTRA)) ≤ 64 ∧
    codeMax ≤ 15 ∧ G.idx DYN_CODE_SIZE_LIMITS 2 ≤ 7 := by
  -- the kernel folds over a list far faster than over an array
  simp only [maxOf, ← Array.foldl_toList]
  decide +kernel

/-- The token engines append to the 64 KiB LZ code buffer (`lz.codes`, indexed through `as u16`, so an
    overflow wraps silently onto the first flag byte) and hand the block over as soon as
    `code_position > LZ_CODE_BUF_SIZE - N`. With N and the number of code bytes written per recorded
    literal / match REGENERATED from the source: between two such tests `compress_normal` records at
    most one deferred literal and one match (plus at most one new flag byte: a flag byte serves 8
    codes), `compress_fast` one literal or one match; from every position that passes the test, every
    byte such a step writes lies inside the buffer — for every position, symbolically. -/
theorem lz_code_buffer_never_overflows :
    (∀ N ∈ LZ_TIGHT_SLACK_NORMAL.toList, ∀ pos : Int, 0 ≤ pos → pos ≤ Gen.Buffer.LZ_CODE_BUF_SIZE - N →
        pos + (RECORD_LITERAL_CODES + RECORD_MATCH_CODES + 1) ≤ Gen.Buffer.LZ_CODE_BUF_SIZE) ∧
    (∀ N ∈ LZ_TIGHT_SLACK_FAST.toList, ∀ pos : Int, 0 ≤ pos → pos ≤ Gen.Buffer.LZ_CODE_BUF_SIZE - N →
        pos + (max RECORD_LITERAL_CODES RECORD_MATCH_CODES + 1) ≤ Gen.Buffer.LZ_CODE_BUF_SIZE) ∧
    LZ_TIGHT_SLACK_NORMAL.size ≥ 1 ∧ LZ_TIGHT_SLACK_FAST.size ≥ 2 := by
  have h1 : LZ_TIGHT_SLACK_NORMAL.toList.all (fun N => decide (RECORD_LITERAL_CODES + RECORD_MATCH_CODES + 1 ≤ N)) = true := by
    decide +kernel
  have h2 : LZ_TIGHT_SLACK_FAST.toList.all (fun N => decide (max RECORD_LITERAL_CODES RECORD_MATCH_CODES + 1 ≤ N)) = true := by
    decide +kernel
  refine ⟨fun N hN pos _ hp => ?_, fun N hN pos _ hp => ?_, by decide +kernel, by decide +kernel⟩
  · have := List.all_eq_true.mp h1 N hN
    simp only [decide_eq_true_eq] at this
    omega
  · have := List.all_eq_true.mp h2 N hN
    simp only [decide_eq_true_eq] at this
    omega

/-- The three token engines keep hot registers (`src_pos`, `lookahead_size`, `lookahead_pos`, and in
    `compress_normal` the deferred lazy match `saved_lit / saved_match_dist / saved_match_len`) in
    locals. PROGRAM-TEXT fact regenerated from the source: at EVERY exit of every engine — the
    early returns taken when a block flush in the middle of the input could not hand all its bytes
    to the caller, and the normal end — every such local declared before the exit is stored back
    to the field it caches. A suspended call therefore resumes with exactly the loop's state
    (DESIGN.md §7 C02, `lazy_state_saved`); dropping one store loses or duplicates input bytes. -/
theorem engine_exits_store_all_cached_registers :
    Gen.Facts.engineExits.all (fun e => e.2.2.2.1.all (fun f => e.2.2.2.2.contains f)) = true ∧
    Gen.Facts.engineExits.length ≥ 9 ∧
    (Gen.Facts.engineExits.filter (fun e => e.2.2.2.1.length ≥ 6)).length ≥ 2 := by
  decide +kernel

/-! ### The output staging model (`Model.DeflOut`, tied to the code by the STG correspondence)

`Model.DeflOut.compressInner` mirrors `compress_inner`'s guards, the buffer-sink `flush_output`
(direct write when ≥ OUT_BUF_SIZE bytes of room are left, otherwise `local_buf` with the rest kept
pending), the rule that an engine stops when a block leaves bytes pending, the guarded epilogue
block and `flush_output_buffer`. The engines are a SCRIPT, so the theorems hold for every engine
behaviour, every output buffer size (including zero) and every flush sequence. The correspondence
replays every `compress` call of every generated schedule (≈ 70 000 calls per quick run) with the
`flush_block` events recorded by the hooks: status, bytes written, blocks flushed, epilogue block,
bytes left pending must agree. -/
open Model.DeflOut in
/-- TIES to the regenerated source: the model's staging threshold is the source's `OUT_BUF_SIZE`,
    and the model refuses a call exactly when the regenerated guard of `compress_inner` does
    (all 4 statuses × 8 × 8 flush modes). -/
theorem staging_model_constants_are_source :
    (Model.DeflOut.OUT_BUF_SIZE : Int) = Gen.Buffer.OUT_BUF_SIZE ∧
    (∀ st ∈ TDEFLStatus.all, ∀ pf ∈ TDEFLFlush.all, ∀ cf ∈ TDEFLFlush.all,
      ((compressInner (Stage.mk [] false st pf.toNat) 10 cf.toNat (EngineCall.mk [] false [])).status == stBadParam)
        = guard_rejects st pf cf) := by
  refine ⟨by decide +kernel, ?_⟩
  have h : allIn TDEFLStatus.all (fun st => allIn TDEFLFlush.all (fun pf => allIn TDEFLFlush.all (fun cf =>
      ((compressInner (Stage.mk [] false st pf.toNat) 10 cf.toNat (EngineCall.mk [] false [])).status == stBadParam)
        == guard_rejects st pf cf))) = true := by
    decide +kernel
  intro st hst pf hp cf hc
  have := allIn_spec (allIn_spec (allIn_spec h st hst) pf hp) cf hc
  simpa using this

open Model.DeflOut in
/-- Per call: never more bytes written than the space offered (down to an empty buffer). -/
theorem staging_counts_within_space (s : Stage) (c : Call) (h : c.eng.WF) :
    (compressInner s c.outLen c.flush c.eng).delivered.length ≤ c.outLen := call_within_space s c h

open Model.DeflOut in
/-- EVERY HISTORY of calls, any buffer sizes, any flush modes, any engine behaviour: the bytes the
    caller received so far followed by the bytes still pending in `local_buf` are exactly the
    concatenation of all blocks that went through `flush_block`, in order — nothing lost,
    duplicated or reordered by the staging. -/
theorem staging_conserves_bytes (cs : List Call) (h : ∀ c ∈ cs, c.eng.WF) :
    (runCalls {} cs).2.1 ++ (runCalls {} cs).1.pending = (runCalls {} cs).2.2.1 := by
  have := history_conservation cs {} h
  simpa using this

open Model.DeflOut in
/-- A block is handed to `flush_block` only when nothing is pending and the stream is not finished
    (the `debug_assert!(flush_remaining == 0)` of `flush_block`, as a theorem of the model). -/
theorem staging_flushes_only_when_drained (s : Stage) (c : Call) (h : c.eng.WF) :
    let r := compressInner s c.outLen c.flush c.eng
    (r.flushed ≠ 0 ∨ r.epilogue = true) → s.pending = [] ∧ s.finished = false :=
  flush_only_when_drained s c h

open Model.DeflOut in
/-- `Done` exactly when finished and drained; finished only by a Finish request; afterwards (and after
    any refused call) every call is refused; a non-Finish request after Finish is refused. -/
theorem staging_protocol (s : Stage) (c : Call) (h : c.eng.WF) :
    (let r := compressInner s c.outLen c.flush c.eng
     (r.status = stDone ↔ (r.stage.finished = true ∧ r.stage.pending = [] ∧ r.status ≠ stBadParam)) ∧
     (r.stage.finished = true → s.finished = true ∨ c.flush = flFinish)) ∧
    ((s.prev = stDone ∨ s.prev = stBadParam) → (compressInner s c.outLen c.flush c.eng).status = stBadParam) ∧
    (s.lastFlush = flFinish → c.flush ≠ flFinish → (compressInner s c.outLen c.flush c.eng).status = stBadParam) :=
  ⟨done_iff_finished_and_drained s c h, fun hp => (after_done_or_badparam s c hp).1, nonfinish_after_finish s c⟩

/-- Non-vacuity: a concrete two-call history through a 3-byte buffer. -/
example : (Model.DeflOut.runCalls {}
    [⟨3, 0, { blocks := [[1, 2, 3, 4, 5]], drained := true, finalBlk := [] }⟩,
     ⟨3, 4, { blocks := [], drained := true, finalBlk := [9] }⟩]).2.1 = [1, 2, 3, 4, 5] := by decide

example : guard_rejects TDEFLStatus.Okay TDEFLFlush.Finish TDEFLFlush.None = true := by decide +kernel
example : guard_rejects TDEFLStatus.Okay TDEFLFlush.Sync TDEFLFlush.Finish = false := by decide +kernel

end C02
