/-
C16 — checksums equal their definitions and compose incrementally.
L0 theorems about the RFC definitions (Spec/Checksum.lean): any split of the data gives the same
result as one pass, for every starting value. The crate's `update_adler32` / `mz_crc32_oxide`
delegate to third-party crates (adler2, simd-adler32, crc32fast) which are NOT modelled: they are
compared with these definitions on every run (oracle leg, `CK` transcript lines).
-/
import MinizProof.Lemmas.Checksum
namespace C16
open Spec

/-- Adler-32 composes: continuing from the checksum of `a` over `b` is the checksum of `a ++ b`,
    for EVERY starting value (in particular every checksum of a prefix) and every split. -/
theorem adler32_append (init : Nat) (a b : List UInt8) :
    adler32 (adler32 init a) b = adler32 init (a ++ b) :=
  Spec.adler32_append init a b

/-- CRC-32 composes in the same way. -/
theorem crc32_append (init : Nat) (a b : List UInt8) :
    crc32 (crc32 init a) b = crc32 init (a ++ b) :=
  Spec.crc32_append init a b

/-- Splitting at any point `k` gives the one-pass value. -/
theorem adler32_split (init : Nat) (d : List UInt8) (k : Nat) :
    adler32 (adler32 init (d.take k)) (d.drop k) = adler32 init d := by
  rw [Spec.adler32_append, List.take_append_drop]

theorem crc32_split (init : Nat) (d : List UInt8) (k : Nat) :
    crc32 (crc32 init (d.take k)) (d.drop k) = crc32 init d := by
  rw [Spec.crc32_append, List.take_append_drop]

-- the definitions compute the published check values
example : adler32 1 [87, 105, 107, 105, 112, 101, 100, 105, 97] = 0x11E60398 := by decide +kernel  -- "Wikipedia"
example : crc32 0 [49, 50, 51, 52, 53, 54, 55, 56, 57] = 0xCBF43926 := by decide +kernel  -- "123456789"
-- all-0xFF bytes, the case that decides an implementation's deferred-reduction bound (NMAX = 5552): the
-- definition reduces modulo 65521 after every byte over `Nat`, so it has no such bound to argue about
example : adler32 1 (List.replicate 3 255) = ((1+255) + (1+510) + (1+765)) * 65536 + 766 := by decide +kernel

/-- Any number of incremental updates: feeding the chunks `c, cs…` one call after the other, each
    call starting from the previous result, gives the one-pass checksum of their concatenation. -/
theorem adler32_chunks (init : Nat) (c : List UInt8) (cs : List (List UInt8)) :
    cs.foldl adler32 (adler32 init c) = adler32 init (c ++ cs.flatten) :=
  foldl_chunks Spec.adler32_append init c cs

theorem crc32_chunks (init : Nat) (c : List UInt8) (cs : List (List UInt8)) :
    cs.foldl crc32 (crc32 init c) = crc32 init (c ++ cs.flatten) :=
  foldl_chunks Spec.crc32_append init c cs

example : [[2, 3], [], [4]].foldl adler32 (adler32 1 [1]) = adler32 1 [1, 2, 3, 4] := by decide +kernel
end C16
