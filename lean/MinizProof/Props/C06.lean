/-
C06 — end of stream is detected exactly; bytes after it are never consumed.
Proved here, about a hand-written model of the decoder's input accounting (`undo_bytes` and the
`consumed = bytes read − bytes returned` arithmetic at the end of `decompress_with_limit`): with
`nb` bits in the bit buffer after reading `c` bytes in this call, returning `min(nb/8, c)` whole
bytes keeps the logical bit position `8·consumed − pending bits` unchanged, leaves fewer than 8
bits pending whenever the buffered whole bytes all come from this call, and then reports exactly
⌈logical position / 8⌉ bytes consumed — the last byte holding a bit of the stream. The reference
decoder's encoded length (`Spec.inflateSpec`/`zlibSpec`: ⌈bits/8⌉, + 4 for the zlib trailer) is
compared with the count every entry point reports, with 0..64 trailing bytes (oracle leg).
-/
import MinizProof.Spec.Inflate
import MinizProof.Lemmas.CoreRefine
import MinizProof.Lemmas.CoreExt
import MinizProof.Lemmas.CoreConverse
import MinizProof.Props.C03
namespace C06

/-- `undo_bytes(l, max)`: returns the number of whole bytes given back and the new bit count. -/
def undoBytes (numBits max : Nat) : Nat × Nat :=
  let res := min (numBits / 8) max
  (res, numBits - 8 * res)

/-- The logical position (bits of the stream actually used) is what was read minus what is pending. -/
def logicalBits (bytesRead numBits : Nat) : Nat := 8 * bytesRead - numBits

theorem undo_preserves_position (read nb : Nat) (h : nb ≤ 8 * read) :
    let (res, nb') := undoBytes nb read
    logicalBits (read - res) nb' = logicalBits read nb ∧ res ≤ read := by
  show 8 * (read - min (nb / 8) read) - (nb - 8 * min (nb / 8) read) = 8 * read - nb ∧ min (nb / 8) read ≤ read
  rw [Nat.min_eq_left (Nat.div_le_of_le_mul h)]
  omega

/-- If every whole byte in the bit buffer was read in this call (`nb / 8 ≤ read`), fewer than 8
    bits stay pending and the bytes reported consumed are exactly ⌈logical position / 8⌉. -/
theorem undo_exact (read nb : Nat) (h : nb ≤ 8 * read) :
    let (res, nb') := undoBytes nb read
    nb' < 8 ∧ read - res = (logicalBits read nb + 7) / 8 := by
  show nb - 8 * min (nb / 8) read < 8 ∧ read - min (nb / 8) read = (8 * read - nb + 7) / 8
  rw [Nat.min_eq_left (Nat.div_le_of_le_mul h)]
  omega

/-- Encoded length of a zlib stream = header (2) + body + trailer (4), as the reference decoder
    defines it: an accepted stream reports `bytesUsed = ⌈bitsUsed / 8⌉ + 4` (`bitsUsed` counts the header's 16 bits). -/
theorem zlib_length (pre : Array UInt8) (maxDist : Nat) (data : Array UInt8) (r : Spec.ZInflated)
    (h : Spec.zlibSpec pre maxDist data = .accept r) : r.bytesUsed = (r.inner.bitsUsed + 7) / 8 + 4 := by
  obtain ⟨_, _, _, _, _, _, _, _, _, _, _, _, _, _, _, hused⟩ := Model.Core.zlibSpec_inv h
  exact hused

open Model.Core in
/-- END OF STREAM, exactly: when the RFC reference decoder accepts the raw stream that starts the
    input, one call of the decoder model reports `Done` having consumed exactly ⌈bits used / 8⌉
    bytes — the last byte holding a bit of the final block — however many unrelated bytes follow
    in `inp` (the hypothesis is about the whole `inp`, trailing bytes included). -/
theorem stream_end_consumed_exactly (r : Regs) (inp out : Array UInt8) (outPos budget flags maxDist : Nat)
    (res : Spec.Inflated) (hstart : r.state = sStart)
    (hshape : r.rawHeader.size = 4 ∧ r.tableSizes.size = 3 ∧ r.lenCodes.size = 512)
    (hflat : hasFlag flags fNonWrapping = true) (hz : hasFlag flags fParseZlib = false)
    (hstop : hasFlag flags fStopOnBlockBoundary = false) (hpos : outPos ≤ out.size)
    (hspec : Spec.inflateSpec (out.extract 0 outPos) maxDist inp 0 = .accept res)
    (hroom : outPos + res.out.size ≤ min (outPos + budget) out.size) :
    (decompress r inp out outPos budget flags).status = stDone ∧
    (decompress r inp out outPos budget flags).consumed = (res.bitsUsed + 7) / 8 := by
  have h := refine_raw_flat r inp out outPos budget flags maxDist res hstart hshape hflat hz hstop hpos hspec hroom
  exact ⟨h.1, h.2.2.1⟩

/-! ### Whatever follows the stream does not matter

One call on `a ++ b` IS the call on `a` whenever the run over `a` did not end starved
(`Lemmas/CoreExt`, from the per-state input-extension lemmas of `Lemmas/CoreSplit`): same status,
same counts, same buffer, same saved registers. With the refinement theorem this gives the property
for every valid stream and every continuation; with the converse of C04 it even transfers to the
reference decoder itself. -/
open Model.Core in
/-- NO MATTER WHAT FOLLOWS, raw DEFLATE: if the reference decoder accepts `a`, the call on `a ++ b`
    — for EVERY `b` — is the call on `a`: `Done`, exactly ⌈bits/8⌉ bytes consumed. -/
theorem trailing_bytes_do_not_matter (r : Regs) (a b out : Array UInt8) (outPos budget flags maxDist : Nat)
    (res : Spec.Inflated) (hstart : r.state = sStart)
    (hshape : r.rawHeader.size = 4 ∧ r.tableSizes.size = 3 ∧ r.lenCodes.size = 512)
    (hflat : hasFlag flags fNonWrapping = true) (hz : hasFlag flags fParseZlib = false)
    (hstop : hasFlag flags fStopOnBlockBoundary = false) (hpos : outPos ≤ out.size)
    (hspec : Spec.inflateSpec (out.extract 0 outPos) maxDist a 0 = .accept res)
    (hroom : outPos + res.out.size ≤ min (outPos + budget) out.size) :
    decompress r (a ++ b) out outPos budget flags = decompress r a out outPos budget flags ∧
    (decompress r (a ++ b) out outPos budget flags).status = stDone ∧
    (decompress r (a ++ b) out outPos budget flags).consumed = (res.bitsUsed + 7) / 8 := by
  have h := refine_raw_flat r a out outPos budget flags maxDist res hstart hshape hflat hz hstop hpos hspec hroom
  have he := done_ext_same r a b out outPos budget flags h.1
  exact ⟨he, by rw [he]; exact h.1, by rw [he]; exact h.2.2.1⟩

open Model.Core in
/-- The same for a zlib stream: exactly header + body + trailer bytes, whatever follows. -/
theorem trailing_bytes_do_not_matter_zlib (r : Regs) (a b out : Array UInt8) (outPos budget flags maxDist : Nat)
    (zr : Spec.ZInflated) (hstart : r.state = sStart)
    (hshape : r.rawHeader.size = 4 ∧ r.tableSizes.size = 3 ∧ r.lenCodes.size = 512)
    (hflat : hasFlag flags fNonWrapping = true) (hz : hasFlag flags fParseZlib = true)
    (hstop : hasFlag flags fStopOnBlockBoundary = false) (hpos : outPos ≤ out.size)
    (hspec : Spec.zlibSpec (out.extract 0 outPos) maxDist a true = .accept zr)
    (hroom : outPos + zr.inner.out.size ≤ min (outPos + budget) out.size) :
    decompress r (a ++ b) out outPos budget flags = decompress r a out outPos budget flags ∧
    (decompress r (a ++ b) out outPos budget flags).status = stDone ∧
    (decompress r (a ++ b) out outPos budget flags).consumed = (zr.inner.bitsUsed + 7) / 8 + 4 := by
  obtain ⟨hst, _, hc, _⟩ := C03.valid_zlib_stream_decodes_one_shot r a out outPos budget flags maxDist zr hstart hshape hflat hz hstop
    hpos hspec hroom
  have he := done_ext_same r a b out outPos budget flags hst
  exact ⟨he, by rw [he]; exact hst, by rw [he, hc]; exact zlib_length _ _ _ _ hspec⟩

open Model.Core in
/-- … and so the REFERENCE DECODER itself does not care what follows a stream it accepts (obtained
    through the decoder model: forward refinement on `a`, input extension, converse on `a ++ b`):
    it accepts `a ++ b` with the same plaintext and the same encoded length in bytes. -/
theorem reference_decoder_ignores_trailing_bytes (pre a b : Array UInt8) (res : Spec.Inflated)
    (h : Spec.inflateSpec pre 32768 a 0 = .accept res) :
    ∃ res', Spec.inflateSpec pre 32768 (a ++ b) 0 = .accept res' ∧ res'.out = res.out ∧
      (res'.bitsUsed + 7) / 8 = (res.bitsUsed + 7) / 8 := by
  -- a flat buffer `O` holding the history, with room for exactly the plaintext
  obtain ⟨O, hsz, hpre⟩ : ∃ O : Array UInt8, O.size = pre.size + res.out.size ∧ O.extract 0 pre.size = pre :=
    ⟨pre ++ Array.replicate res.out.size 0, by rw [Array.size_append, Array.size_replicate],
      by rw [Array.extract_append, Array.extract_size, Nat.sub_self, Array.extract_zero, Array.append_empty]⟩
  have hfl : hasFlag 4 fNonWrapping = true ∧ hasFlag 4 fParseZlib = false ∧ hasFlag 4 fStopOnBlockBoundary = false := by decide
  have hpos : pre.size ≤ O.size := by omega
  have hroom : pre.size + res.out.size ≤ min (pre.size + res.out.size) O.size := by omega
  rw [← hpre] at h
  -- forward on `a`; the same call on `a ++ b`; converse and forward again on `a ++ b`
  have hfw := refine_raw_flat {} a O pre.size res.out.size 4 32768 res rfl fresh_shape hfl.1 hfl.2.1 hfl.2.2 hpos h hroom
  have he := done_ext_same {} a b O pre.size res.out.size 4 hfw.1
  obtain ⟨res', hacc, hroom'⟩ :=
    done_raw_flat {} (a ++ b) O pre.size res.out.size 4 rfl fresh_shape hfl.1 hfl.2.1 hfl.2.2 hpos (by rw [he]; exact hfw.1)
  have hbw := refine_raw_flat {} (a ++ b) O pre.size res.out.size 4 32768 res' rfl fresh_shape hfl.1 hfl.2.1 hfl.2.2 hpos hacc hroom'
  rw [he] at hbw
  rw [hpre] at hacc
  have hsize : res'.out.size = res.out.size := hbw.2.1.symm.trans hfw.2.1
  refine ⟨res', hacc, ?_, hbw.2.2.1.symm.trans hfw.2.2.1⟩
  apply Array.ext_getElem?
  intro i
  by_cases hi : i < res.out.size
  · rw [← hbw.2.2.2 i (hsize ▸ hi), ← hfw.2.2.2 i hi]
  · rw [Array.getElem?_eq_none (by omega), Array.getElem?_eq_none (by omega)]

example : undoBytes 19 5 = (2, 3) := by decide
example : logicalBits 5 19 = 21 ∧ (21 + 7) / 8 = 3 := by decide

end C06
