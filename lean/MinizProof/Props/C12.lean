/-
C12 — flush points make all input so far decodable; full flush cuts history.
Proved here, about the hand-written bit-writer model (Model/BitWriter.lean, mirrored from
`OutputBufferOxide::put_bits/pad_to_bytes` and the marker arm of `flush_block`):
 * the Sync/Full marker always leaves the writer byte-aligned with nothing pending and the output
   ending in 00 00 FF FF, from ANY writer state satisfying the writer invariant (< 8 pending bits);
 * the invariant is preserved by every `put_bits` (so it holds at every flush point);
 * the Partial marker is the 10-bit empty fixed block, which the RFC reference decoder reads as
   a non-final block producing no output.
And over REGENERATED definitions: how the public flush values map onto the internal ones.
Decoder side, over the decoder model: any sequence of non-final blocks of the encoder specification
(Props/C10) that ends with the byte string is decoded completely by one call, which then asks for
more input; and the sync marker turns any such sequence into one that ends on a byte boundary.
That the compressor's output before the marker IS such a sequence depends on the engines (contract
EngineValid): checked by the Lean reference decoder on the prefix at every flush point (oracle).
-/
import MinizProof.Lemmas.BitWriter
import MinizProof.Gen.All
import MinizProof.Spec.Inflate
import MinizProof.Lemmas.Finite
import MinizProof.Lemmas.CoreFlushPrefix
import MinizProof.Props.C10
import MinizProof.Lemmas.EncZlib

namespace C12
open Model

/-- After a Sync or Full flush marker: byte-aligned, nothing pending, output ends 00 00 FF FF. -/
theorem sync_marker_aligned (w : BW) (hw : w.Inv) :
    (syncMarker w).n = 0 ∧ (syncMarker w).buf = 0 ∧ ∃ pre, (syncMarker w).out = pre ++ [0, 0, 255, 255] :=
  syncMarker_spec w hw

/-- The writer invariant holds initially and after any sequence of `put_bits` calls whose
    arguments satisfy the `assert!(bits <= (1 << len) - 1)` of the implementation. -/
theorem writer_invariant (ops : List (Nat × Nat)) (h : ∀ o ∈ ops, o.1 < 2 ^ o.2) :
    (ops.foldl (fun w o => putBits w o.1 o.2) { out := [], buf := 0, n := 0 }).Inv := by
  suffices ∀ (w : BW), w.Inv → (∀ o ∈ ops, o.1 < 2 ^ o.2) →
      (ops.foldl (fun w o => putBits w o.1 o.2) w).Inv from
    this _ ⟨by decide, by decide⟩ h
  induction ops with
  | nil => intro w hw _; simpa using hw
  | cons o t ih =>
    intro w hw ho
    exact ih (fun o' ho' => h o' (List.mem_cons_of_mem _ ho')) _
      (putBits_inv w o.1 o.2 hw (ho o (List.mem_cons_self)))
      (fun o' ho' => ho o' (List.mem_cons_of_mem _ ho'))

/-- The Partial flush marker, written from an aligned writer, is 02 00 after padding; the RFC
    reference decoder reads it as a complete non-final fixed block with no output and then runs
    out of input (so everything before it has been handed to the decoder). -/
theorem partial_marker_is_empty_fixed_block :
    (padToBytes (partialMarker { out := [], buf := 0, n := 0 })).out = [2, 0] ∧
    (match Spec.inflateSpec #[] 32768 #[2, 0] with
     | .truncated p => p.size == 0
     | _ => false) = true := by
  constructor
  · decide +kernel
  · -- evaluated with the fixed codes as literals
    rw [Spec.inflateSpec, show Spec.fuelFor #[2, 0] = 31 + 1 from rfl, Spec.inflateBlocks_succ, Spec.inflateBlock,
      Spec.fixedLitCode_eq, Spec.fixedDistCode_eq]
    decide +kernel

open Gen.Lib Gen.DeflCore in
/-- `deflate()` maps the public flush values onto the internal ones unchanged (None, Partial,
    Sync, Full, Finish), and the C entry points map 1 and 2 to Sync. -/
theorem flush_mapping :
    TDEFLFlush_from_MZFlush MZFlush.None = TDEFLFlush.None ∧
    TDEFLFlush_from_MZFlush MZFlush.Partial = TDEFLFlush.Partial ∧
    TDEFLFlush_from_MZFlush MZFlush.Sync = TDEFLFlush.Sync ∧
    TDEFLFlush_from_MZFlush MZFlush.Full = TDEFLFlush.Full ∧
    TDEFLFlush_from_MZFlush MZFlush.Finish = TDEFLFlush.Finish ∧
    MZFlush_new 1 = G.Res.ok MZFlush.Sync ∧ MZFlush_new 2 = G.Res.ok MZFlush.Sync ∧
    MZFlush_new 3 = G.Res.ok MZFlush.Full := by decide +kernel


/-! ### What a flush point means for a decoder (encoder specification → decoder model) -/
open Model.Core Spec in
/-- a flushed prefix of a stream: any sequence of NON-FINAL static / dynamic / stored blocks (`C10.StdBlock`)
    whose tokens are well-formed where they stand -/
def PrefixOk (maxDist : Nat) : Array UInt8 → List EncBlock → Prop
  | _, [] => True
  | out, b :: rest => b.final = false ∧ C10.StdBlock b ∧ ToksOk b.litLens b.distLens #[] maxDist out b.toks ∧
      PrefixOk maxDist (expandToks #[] out b.toks) rest

open Model.Core Spec in
theorem prefix_is_read_block_by_block (maxDist : Nat) (data : Array UInt8) : ∀ (bs : List EncBlock) (pos : Nat) (out : Array UInt8),
    PrefixOk maxDist out bs → HasBits data pos (blocksBits pos bs) →
    DecodesBlocks #[] maxDist data pos out (pos + (blocksBits pos bs).length) (expandBlocks #[] out bs) := by
  intro bs
  induction bs with
  | nil => intro pos out _ _; exact .nil pos out
  | cons b rest ih =>
    intro pos out hok h
    obtain ⟨hf, hstd, htok, hrest⟩ := hok
    obtain ⟨hb, hr⟩ := HasBits.append (a := b.bits pos) (b := blocksBits (pos + (b.bits pos).length) rest) h
    obtain ⟨info, hacc, hfin⟩ := (hstd.decodes maxDist).1 data (8 * data.size + 1) pos out (by omega) htok hb
    have := ih (pos + (b.bits pos).length) (expandToks #[] out b.toks) hrest hr
    have hlen : pos + (blocksBits pos (b :: rest)).length =
        pos + (b.bits pos).length + (blocksBits (pos + (b.bits pos).length) rest).length := by
      show pos + (b.bits pos ++ blocksBits (pos + (b.bits pos).length) rest).length = _
      rw [List.length_append]; omega
    rw [hlen]
    exact .cons hacc (by rw [hfin]; exact hf) this

open Model.Core Spec in
/-- A FLUSH POINT MAKES ALL INPUT SO FAR DECODABLE (decoder side, for every conforming encoder output):
    take ANY sequence of non-final static, dynamic and stored blocks (any tokens, any valid codes) whose
    bits end exactly at the end of the byte string `data` — which is what the compressor's output looks
    like right after a sync or full flush: complete blocks, the last one the empty stored block that
    pads to a byte boundary (`sync_marker_aligned`). Then ONE call of the decoder model on `data` alone
    (fresh decoder, flat buffer with a byte to spare, more input announced), with nothing further, writes
    exactly the expansion of all those blocks' tokens — all input supplied so far —, consumes every byte
    and reports "needs more input". (Encoder specification of C10 → reference decoder block by block →
    `Lemmas/CoreFlushPrefix`: the block simulation of C03 over a run of non-final blocks, then the
    block-header read that finds no input.) Whether the compressor's output at a flush point IS such a
    sequence is checked on every run (op `PFX`: the Lean reference decoder on every flush-point prefix). -/
theorem flush_point_prefix_decodes_to_all_input (data out : Array UInt8) (budget flags : Nat) (bs : List EncBlock)
    (hflat : hasFlag flags fNonWrapping = true) (hz : hasFlag flags fParseZlib = false)
    (hstop : hasFlag flags fStopOnBlockBoundary = false) (hmore : hasFlag flags fHasMoreInput = true)
    (hok : PrefixOk 32768 #[] bs) (h : HasBits data 0 (blocksBits 0 bs))
    (hend : (blocksBits 0 bs).length = 8 * data.size)
    (hroom : (expandBlocks #[] #[] bs).size < min budget out.size) :
    (decompress {} data out 0 budget flags).status = stNeedsMoreInput ∧
    (decompress {} data out 0 budget flags).consumed = data.size ∧
    (decompress {} data out 0 budget flags).written = (expandBlocks #[] #[] bs).size ∧
    (∀ i, i < (expandBlocks #[] #[] bs).size →
      (decompress {} data out 0 budget flags).out[i]? = (expandBlocks #[] #[] bs)[i]?) := by
  have hdec := prefix_is_read_block_by_block 32768 data bs 0 #[] hok h
  have hpre : out.extract 0 0 = #[] := by simp
  have := flush_prefix_flat {} data out 0 budget flags 32768 _ _ rfl Model.Core.fresh_shape hflat hz hstop hmore (Nat.zero_le _)
    (by rw [hpre]; exact hdec) (by rw [Nat.zero_add]; exact hend) (by simpa using hroom)
  exact ⟨this.1, this.2.2.1, this.2.1, fun i hi => by have := this.2.2.2 i hi; rwa [Nat.zero_add] at this⟩

open Model.Core Spec in
/-- THE SAME IN ZLIB FORMAT (what `deflate()` users get): a valid header pair, then any such sequence of
    non-final blocks from bit 16 ending at the end of `data`; the decoder (zlib parsing on, any checksum
    flags) writes exactly the expansion of the blocks, consumes everything and asks for more. -/
theorem flush_point_prefix_decodes_to_all_input_zlib (cmf flg : Nat) (hc : cmf < 256) (hf : flg < 256)
    (hv : zlibHeaderValid cmf flg = true) (data out : Array UInt8) (budget flags : Nat) (bs : List EncBlock)
    (hflat : hasFlag flags fNonWrapping = true) (hz : hasFlag flags fParseZlib = true)
    (hstop : hasFlag flags fStopOnBlockBoundary = false) (hmore : hasFlag flags fHasMoreInput = true)
    (hok : PrefixOk 32768 #[] bs) (h : HasBits data 0 (bitsLE cmf 8 ++ (bitsLE flg 8 ++ blocksBits 16 bs)))
    (hend : 16 + (blocksBits 16 bs).length = 8 * data.size)
    (hroom : (expandBlocks #[] #[] bs).size < min budget out.size) :
    (decompress {} data out 0 budget flags).status = stNeedsMoreInput ∧
    (decompress {} data out 0 budget flags).consumed = data.size ∧
    (decompress {} data out 0 budget flags).written = (expandBlocks #[] #[] bs).size ∧
    (∀ i, i < (expandBlocks #[] #[] bs).size →
      (decompress {} data out 0 budget flags).out[i]? = (expandBlocks #[] #[] bs)[i]?) := by
  obtain ⟨h0, h⟩ := HasBits.append (a := bitsLE cmf 8) h
  obtain ⟨h1, hbody⟩ := h.append
  simp only [bitsLE_length, Nat.zero_add] at h1 hbody
  have d0 := byte_of_hasBits data 0 cmf hc (by simpa using h0)
  have d1 := byte_of_hasBits data 1 flg hf (by simpa using h1)
  have hdec := prefix_is_read_block_by_block 32768 data bs 16 #[] hok (by simpa using hbody)
  have hpre : out.extract 0 0 = #[] := by simp
  have := flush_prefix_flat_zlib {} data out 0 budget flags 32768 _ _ (UInt8.ofNat cmf) (UInt8.ofNat flg) rfl Model.Core.fresh_shape
    hflat hz hstop hmore (Nat.zero_le _) d0 d1 (by rw [ofNat_toNat_lt hc, ofNat_toNat_lt hf]; exact hv)
    (by rw [hpre]; exact hdec) hend (by simpa using hroom)
  exact ⟨this.1, this.2.2.1, this.2.1, fun i hi => by have := this.2.2.2 i hi; rwa [Nat.zero_add] at this⟩

open Model.Core Spec in
/-- the sync marker is one of these blocks, and after it the stream stands on a byte boundary whatever
    the bit position before it -/
theorem sync_marker_block_ends_on_a_byte_boundary (pos : Nat) :
    C10.StdBlock (encStored false []) ∧ (pos + ((encStored false []).bits pos).length) % 8 = 0 := by
  refine ⟨.stored false [] (by simp) (by simp), ?_⟩
  show (pos + (bitsLE 0 3 ++ (List.replicate (padLen pos) 0 ++ (bitsLE 0 16 ++ (bitsLE (65535 - 0) 16 ++ byteBits [])))).length) % 8 = 0
  simp only [List.length_append, bitsLE_length, List.length_replicate, byteBits_length, List.length_nil]
  unfold padLen
  omega

open Model.Core Spec in
theorem blocksBits_append : ∀ (bs cs : List EncBlock) (pos : Nat),
    blocksBits pos (bs ++ cs) = blocksBits pos bs ++ blocksBits (pos + (blocksBits pos bs).length) cs := by
  intro bs
  induction bs with
  | nil => intro cs pos; simp [blocksBits]
  | cons b rest ih =>
    intro cs pos
    simp only [List.cons_append, blocksBits, ih, List.append_assoc, List.length_append]
    congr 3
    omega

open Model.Core Spec in
theorem expandBlocks_append : ∀ (bs cs : List EncBlock) (out : Array UInt8),
    expandBlocks #[] out (bs ++ cs) = expandBlocks #[] (expandBlocks #[] out bs) cs := by
  intro bs
  induction bs with
  | nil => intro cs out; rfl
  | cons b rest ih => intro cs out; simp only [List.cons_append, expandBlocks, ih]

open Model.Core Spec in
theorem PrefixOk_append (maxDist : Nat) : ∀ (bs cs : List EncBlock) (out : Array UInt8),
    PrefixOk maxDist out bs → PrefixOk maxDist (expandBlocks #[] out bs) cs → PrefixOk maxDist out (bs ++ cs) := by
  intro bs
  induction bs with
  | nil => intro cs out _ h; exact h
  | cons b rest ih =>
    intro cs out h hc
    obtain ⟨h1, h2, h3, h4⟩ := h
    exact ⟨h1, h2, h3, ih cs _ h4 hc⟩

open Model.Core Spec in
/-- WHATEVER STANDS BEFORE IT, THE SYNC MARKER MAKES A FLUSH POINT: any sequence of non-final blocks
    (ending at any bit position) followed by the empty stored block is again such a sequence, ends on a
    byte boundary, and expands to the same bytes — so `flush_point_prefix_decodes_to_all_input` applies to
    the output of every sync / full flush that is a conforming encoding of the input so far. -/
theorem sync_marker_makes_a_flush_point (bs : List EncBlock) (pos : Nat) (out : Array UInt8) (hok : PrefixOk 32768 out bs) :
    PrefixOk 32768 out (bs ++ [encStored false []]) ∧
    (pos + (blocksBits pos (bs ++ [encStored false []])).length) % 8 = 0 ∧
    expandBlocks #[] out (bs ++ [encStored false []]) = expandBlocks #[] out bs := by
  refine ⟨PrefixOk_append 32768 bs _ out hok ⟨rfl, .stored false [] (by simp) (by simp), trivial, trivial⟩, ?_, ?_⟩
  · rw [blocksBits_append, List.length_append, ← Nat.add_assoc]
    have := (sync_marker_block_ends_on_a_byte_boundary (pos + (blocksBits pos bs).length)).2
    simpa [blocksBits] using this
  · rw [expandBlocks_append]
    rfl

example : ({ out := [], buf := 5, n := 3 } : BW).Inv := by unfold BW.Inv; decide
example : (syncMarker { out := [7], buf := 5, n := 3 }).out = [7, 5, 0, 0, 255, 255] := by decide +kernel

-- the hypotheses of the flush-point theorem are satisfiable: the sync marker alone (what a sync flush of
-- an empty raw compressor writes), the five bytes 00 00 00 FF FF
open Model.Core Spec in
example : PrefixOk 32768 #[] [encStored false []] ∧
    HasBits #[0, 0, 0, 255, 255] 0 (blocksBits 0 [encStored false []]) ∧
    (blocksBits 0 [encStored false []]).length = 8 * (#[0, 0, 0, 255, 255] : Array UInt8).size := by
  refine ⟨⟨rfl, .stored false [] (by simp) (by simp), trivial, trivial⟩, ?_, by decide⟩
  intro i hi
  have hl : (blocksBits 0 [encStored false []]).length = 40 := by decide
  rw [hl] at hi
  have : ∀ j : Fin 40, bitAt #[0, 0, 0, 255, 255] (0 + j.val) = some ((blocksBits 0 [encStored false []]).getD j.val 0) := by decide
  exact this ⟨i, hi⟩

end C12
