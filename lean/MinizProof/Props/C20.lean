/-
C20 — the core crate is safe Rust in every configuration; state types stay Send/Sync.
No executable model of the codec expresses this property; what is decided here is a PROGRAM-TEXT
model regenerated by the translator on every run (Gen/Facts.lean: every item of every .rs file
under miniz_oxide/src with its cfg guard and what it mentions, token-level `unsafe` counts that
include compiled-out code, the module tree, struct field types and derives):
 * no `unsafe` token in any file, `#![forbid(unsafe_code)]` unconditional at the root, and every
   source file reachable from the root through `mod` declarations (so the lint covers all of it);
 * every item that mentions an allocator type (alloc, Vec, Box, vec!, String, format!) is guarded,
   syntactically, by `feature = "with-alloc"` (or is test code) — hence in EVERY configuration
   with that feature off no active item mentions one; likewise for `std` and `feature = "std"`;
 * every field type of the public state structs is plain data (integers, bool, arrays, Box of
   plain data, field-less enums, structs of plain data) and Clone is derived.
The language-level consequences (what `forbid` guarantees, the real auto-trait solver, a real
no_std build) are rustc's verdict, compared by the correspondence leg: `cargo check` for the
feature sets, and a probe crate with compile-time `Send + Sync + Clone + 'static` assertions.
-/
import MinizProof.Gen.Facts
namespace C20
open PT Gen.Facts

def featWithAlloc : Nat := 0
def featStd : Nat := 1
def atomTest : Nat := 6
/-- the guard of the verification hooks (`--cfg miniz_oxide_verif`), off in every real build -/
def atomVerif : Nat := atomNames.idxOf "miniz_oxide_verif"

theorem atom_numbering : atomNames.take 7 = ["with-alloc", "std", "serde", "block-boundary", "simd", "rustc-dep-of-std", "test"] := by
  decide +kernel

/-- No `unsafe` token anywhere (including code under any cfg), the lint is unconditional, and all
    files hang off the crate root. -/
theorem no_unsafe :
    fileUnsafe.all (fun p => p.2 == 0) = true ∧ fileUnsafe.length = nFiles ∧
    (items.all (fun it => it.unsafeTok == 0)) = true ∧
    rootForbidUnsafe = true ∧
    (reachable (modDecls.map (fun d => (d.1, d.2.1))) nFiles [rootFile]).length = nFiles := by
  decide +kernel

theorem alloc_items_guarded :
    items.all (fun it => !it.alloc || it.guard.forces featWithAlloc || it.guard.forces atomTest ||
      it.guard.forces atomVerif) = true := by
  decide +kernel

theorem std_items_guarded :
    items.all (fun it => !it.std || it.guard.forces featStd || it.guard.forces atomTest ||
      it.guard.forces atomVerif) = true := by
  decide +kernel

/-- In EVERY cfg environment with `with-alloc` off (not compiling tests, verification hooks off),
    no active item mentions an allocator type: the decompression-only build needs no allocator. -/
theorem no_alloc_without_feature (env : Nat → Bool) (ha : env featWithAlloc = false) (ht : env atomTest = false)
    (hv : env atomVerif = false) :
    ∀ it ∈ items, it.guard.eval env = true → it.alloc = false := by
  intro it hit hact
  have h := List.all_eq_true.mp alloc_items_guarded it hit
  cases hal : it.alloc with
  | false => rfl
  | true =>
    simp only [hal, Bool.not_true, Bool.false_or, Bool.or_eq_true] at h
    rcases h with (h1 | h2) | h3
    · have := Cfg.forces_sound _ _ h1 env hact; simp [ha] at this
    · have := Cfg.forces_sound _ _ h2 env hact; simp [ht] at this
    · have := Cfg.forces_sound _ _ h3 env hact; simp [hv] at this

/-- Likewise no active item mentions `std` when the `std` feature is off, and then `#![no_std]` applies. -/
theorem no_std_without_feature (env : Nat → Bool) (hs : env featStd = false) (ht : env atomTest = false)
    (hv : env atomVerif = false) :
    (∀ it ∈ items, it.guard.eval env = true → it.std = false) ∧ rootNoStd.eval env = true := by
  constructor
  · intro it hit hact
    have h := List.all_eq_true.mp std_items_guarded it hit
    cases hal : it.std with
    | false => rfl
    | true =>
      simp only [hal, Bool.not_true, Bool.false_or, Bool.or_eq_true] at h
      rcases h with (h1 | h2) | h3
      · have := Cfg.forces_sound _ _ h1 env hact; simp [hs] at this
      · have := Cfg.forces_sound _ _ h2 env hact; simp [ht] at this
      · have := Cfg.forces_sound _ _ h3 env hact; simp [hv] at this
  · have : rootNoStd = .not (.atom featStd) := by decide +kernel
    rw [this]; simp [Cfg.eval, hs]

def stateTypes : List Nat :=
  [ty_DecompressorOxide, ty_HuffmanTable, ty_BlockBoundaryState, ty_InflateState, ty_CompressorOxide,
   ty_ParamsOxide, ty_DictOxide, ty_LZOxide, ty_HuffmanOxide, ty_HashBuffers, ty_LocalBuf]

/-- Every public state type (and every struct it contains) is plain data and derives Clone. -/
theorem state_types_plain_and_clone :
    stateTypes.all (fun id => match findStruct structs id with
      | some s => plainStruct structs s && s.deriveClone
      | none => false) = true := by
  decide +kernel

example : (items.filter (·.alloc)).length > 20 := by decide +kernel
example : (Cfg.and (.atom 0) (.not (.atom 5))).forces 0 = true := by decide

end C20
