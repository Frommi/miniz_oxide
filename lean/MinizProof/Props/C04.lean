/-
C04 — the decoder never reports success on an invalid stream.
Proved here over definitions REGENERATED from the source: the failure states are exactly the ten
states after `DoneForever` (so the automaton's catch-all `_ => Failed` arm covers exactly them);
`end_of_input` answers needs-more-input iff more input was announced and cannot-make-progress
otherwise, for every flags word; the status codes keep the sign convention the wrappers rely on
(negative = failure, 0 = done). And over the specification: what the reference decoder accepts
as a code-length set (complete, or the ≤1-bit degenerate case for literal/length and distance
codes only). Then over the decoder model (`Model.Core`): a proper prefix of a valid stream is never
rejected, `Done` implies that the reference decoder accepts (one call, and any call schedule), and
each invalid construct leads to a failure state. Acceptance by the real automaton is compared with
the reference decoder on every run, on mutated, truncated and targeted-invalid streams (oracle leg).
-/
import MinizProof.Gen.All
import MinizProof.Spec.Inflate
import MinizProof.Lemmas.Finite
import MinizProof.Lemmas.GenArith
import MinizProof.Lemmas.CoreSound
import MinizProof.Lemmas.CoreConverse
import MinizProof.Lemmas.SpecFuel
import MinizProof.Lemmas.CoreFull
import MinizProof.Lemmas.CoreExt
import MinizProof.Props.C07
open Fin'

namespace C04
open Gen.InflCore Gen.InflMod

theorem failure_states_exact : ∀ s ∈ State.all,
    State_is_failure s = decide (State.DoneForever < s) := by
  have h : allIn State.all (fun s => State_is_failure s == decide (State.DoneForever < s)) = true := by
    decide +kernel
  intro s hs
  simpa using allIn_spec h s hs

theorem state_numbering : State.all = (List.range 35).map Int.ofNat ∧ State.Start = 0 ∧ State.DoneForever = 24 := by
  decide +kernel

/-- `end_of_input` tests bit 1 of the flags word (`flags & TINFL_FLAG_HAS_MORE_INPUT != 0`), for every
    32-bit flags word. -/
theorem end_of_input_reads_bit_1 (flags : Nat) (hf : flags < 2 ^ 32) :
    end_of_input (Int.ofNat flags) =
      G.Action.fin (if flags / 2 % 2 = 1 then TINFLStatus.NeedsMoreInput else TINFLStatus.FailedCannotMakeProgress) := by
  have hb : G.band (.u 32) (Int.ofNat flags) TINFL_FLAG_HAS_MORE_INPUT = ((flags &&& 2 : Nat) : Int) :=
    G.band_u32_nat flags 2 hf (by decide)
  have hiff : flags &&& 2 ≠ 0 ↔ flags / 2 % 2 = 1 := G.and_two_pow_ne_zero flags 1
  unfold end_of_input
  simp only [Id.run, pure]
  rw [hb]
  by_cases h : flags / 2 % 2 = 1
  · have hne : ((flags &&& 2 : Nat) : Int) ≠ 0 := by exact_mod_cast hiff.mpr h
    rw [if_pos h, if_pos (bne_iff_ne.mpr hne)]
  · have he : flags &&& 2 = 0 := Decidable.byContradiction fun hz => h (hiff.mp hz)
    rw [if_neg h, he]; rfl

/-- Input exhausted: needs-more-input iff TINFL_FLAG_HAS_MORE_INPUT is set, for every flags byte. -/
theorem end_of_input_truthful : ∀ flags, flags < 256 →
    end_of_input (Int.ofNat flags) =
      G.Action.fin (if flags / 2 % 2 = 1 then TINFLStatus.NeedsMoreInput else TINFLStatus.FailedCannotMakeProgress) :=
  fun flags hf => end_of_input_reads_bit_1 flags (by omega)

theorem status_codes :
    TINFLStatus.Done = 0 ∧ TINFLStatus.NeedsMoreInput = 1 ∧ TINFLStatus.HasMoreOutput = 2 ∧
    TINFLStatus.Failed = -1 ∧ TINFLStatus.Adler32Mismatch = -2 ∧ TINFLStatus.BadParam = -3 ∧
    TINFLStatus.FailedCannotMakeProgress = -4 := by decide +kernel

/-- Specification side: a literal/length or distance code may be incomplete only when no code is
    longer than one bit; the code-length code must be complete. Examples on both sides of the rule. -/
theorem code_validity_examples :
    Spec.codeValid .litlen #[1, 1] = true ∧ Spec.codeValid .litlen #[1] = true ∧
    Spec.codeValid .dist #[0] = true ∧ Spec.codeValid .clen #[1] = false ∧
    Spec.codeValid .litlen #[2, 2] = false ∧ Spec.codeValid .litlen #[1, 1, 1] = false ∧
    Spec.codeValid .litlen #[2, 2, 2, 2] = true ∧ Spec.codeValid .dist #[16] = false := by
  decide +kernel

/-! ### The decoder's validity checks, regenerated from the source

`init_tree` and `decompress_fast` are not translated as a whole (loops over lookup tables); the
CONDITIONS of their validity checks are: the translator finds the one `if` that leads to each failure
state and emits its condition as a predicate over the locals it reads. The theorems below pin each of
them to the rule the reference decoder (and the decoder model) applies, for every value of the locals,
so an edit to one of these checks breaks a proof whatever inputs the generators happen to produce. -/

/-- the last stage of `Spec.codeValid`: complete, or a non-code-length alphabet with no code longer than one bit -/
def specAccepts (complete isClen : Bool) (maxLen : Nat) : Bool := complete || (!isClen && decide (maxLen ≤ 1))

theorem codeValid_factors (k : Spec.CodeKind) (lens : Array Nat) :
    Spec.codeValid k lens =
      (lens.all (· ≤ 15) && match Spec.kraftLeft (Spec.countLens lens) with
        | none => false
        | some l => specAccepts (l == 0) (k == .clen) (Spec.maxLen lens)) := by
  unfold Spec.codeValid specAccepts
  cases Spec.kraftLeft (Spec.countLens lens) with
  | none => rfl
  | some l =>
    cases l with
    | zero => simp
    | succ l => cases k <;> rfl

/-- THE SOURCE'S INCOMPLETE-CODE CHECK IS THE SPECIFICATION'S RULE, for every value of the three
    locals it reads (`total` = 65536 exactly for a complete code; `bt` = table index, 2 = code-length
    alphabet; `max_code_len`). -/
theorem source_incomplete_check_is_spec_rule (total bt maxLen : Nat) :
    tree_incomplete_rejects total bt maxLen = !specAccepts (total == 65536) (bt == 2) maxLen := by
  -- case analysis on the three facts the rule reads, so that the proof does not depend on how the
  -- source spells the condition (a local for "complete", `1 << 16` for 65536, `>=`/`>` …)
  unfold tree_incomplete_rejects specAccepts
  rw [Bool.eq_iff_iff]
  simp only [HUFFLEN_TABLE, Bool.and_eq_true, Bool.or_eq_true, Bool.not_eq_true', ← Bool.not_eq_true,
    beq_iff_eq, bne_iff_ne, decide_eq_true_eq, ne_eq]
  omega

/-- The over-subscription check: the running Kraft remainder went negative. -/
theorem source_oversubscription_check (left : Int) : tree_oversubscribed left = decide (left < 0) := rfl

/-- The fast path's symbol checks are the specification's: literal/length symbols above 285 and
    distance symbols above 29 are rejected. -/
theorem source_symbol_checks (c s : Nat) :
    fast_litlen_invalid c = decide (c > 285) ∧ fast_dist_invalid s = decide (s > 29) := by
  unfold fast_litlen_invalid fast_dist_invalid
  constructor <;> simp <;> omega

example : tree_incomplete_rejects 32768 2 1 = true ∧ tree_incomplete_rejects 32768 0 1 = false ∧
    tree_incomplete_rejects 65536 2 7 = false ∧ tree_incomplete_rejects 49152 1 2 = true := by decide

/-! ### Over the decoder model (`Model.Core`, ICALL correspondence)

Three groups of theorems. (1) `proper_prefix_is_never_rejected`: the "conversely" clause of the property,
proved from the refinement theorem (C03), the input-split machinery (C07) and uniqueness of run
results. (2) The local acceptance conditions: each format violation the property lists sends the
automaton to a failure state (`reject_*`), failure states stop the run with `Failed`
(`failure_state_stops_run`), and stay failed (C05 `failed_is_sticky`).
(3) The global converse `done_implies_valid_raw` / `done_implies_valid_zlib` below ("Done ⇒ the consumed
bytes are a stream the reference decoder accepts, and the written bytes are its plaintext"), for one
call on a fresh decoder with a flat buffer. For other buffer modes and call schedules the C07 theorems
reduce every schedule to the single call. -/
open Model.Core Spec in
/-- A proper prefix of a valid raw stream is never rejected as corrupt: all of it is consumed and the
    answer is needs-more-input (has-more-output when the window is exactly full) if more input was
    announced, cannot-make-progress if not. -/
theorem proper_prefix_is_never_rejected (r : Regs) (a b out : Array UInt8) (outPos budget flags maxDist : Nat)
    (res : Inflated)
    (hstart : r.state = sStart) (hshape : r.rawHeader.size = 4 ∧ r.tableSizes.size = 3 ∧ r.lenCodes.size = 512)
    (hflat : hasFlag flags fNonWrapping = true) (hz : hasFlag flags fParseZlib = false)
    (hstop : hasFlag flags fStopOnBlockBoundary = false) (hpos : outPos ≤ out.size)
    (hspec : inflateSpec (out.extract 0 outPos) maxDist (a ++ b) 0 = .accept res)
    (hroom : outPos + res.out.size ≤ min (outPos + budget) out.size)
    (hproper : a.size < (res.bitsUsed + 7) / 8) :
    (decompress r a out outPos budget flags).consumed = a.size ∧
    (if hasFlag flags fHasMoreInput then
        (decompress r a out outPos budget flags).status = stNeedsMoreInput ∨
        (decompress r a out outPos budget flags).status = stHasMoreOutput
     else (decompress r a out outPos budget flags).status = stFailedCannotMakeProgress) :=
  proper_prefix_not_rejected r a b out outPos budget flags maxDist res hstart hshape hflat hz hstop hpos hspec hroom hproper

section
open Model.Core Spec
/-! ### The global converse: `Done` ⇒ valid

For EVERY input, output buffer, window and flag word (flat buffer, one call on a decoder at `Start`):
if the model of `decompress_with_limit` reports `Done`, the RFC reference decoder accepts the input,
the accepted stream is what was consumed, and its plaintext is what was written. Together with the
refinement theorems of C03 this makes `Done` EQUIVALENT to "the reference decoder accepts and the
plaintext fits the granted window". Proved by contraposition along the reference decoder's own control
structure (`Lemmas/CoreConverse`): the forward lemmas carry the model over the accepted part of the
stream; for each of the ways the reference decoder stops — 13 reject reasons, the data ending inside any
field, symbol, stored body or trailer — and for each place the granted window can run out (literal,
match, stored bytes), the model's next transitions end in a failure state, a starved exit or a full
window, never in `Done`. Two facts carry the places where the real decoder is more permissive than its
own checks suggest: a COMPLETE code-length code decodes every bit pattern (Kraft argument,
`decodeSym_complete`), so the filler symbol the real decoder would accept there never arises; and the
reference decoder never stops for lack of fuel (`Spec.inflateSpec_ne_fuel`), so "not accepted" means
rejected or truncated. -/

/-- DONE ⇒ VALID, raw DEFLATE. -/
theorem done_implies_valid_raw (r : Regs) (inp out : Array UInt8) (outPos budget flags : Nat)
    (hstart : r.state = sStart) (hshape : r.rawHeader.size = 4 ∧ r.tableSizes.size = 3 ∧ r.lenCodes.size = 512)
    (hflat : hasFlag flags fNonWrapping = true) (hz : hasFlag flags fParseZlib = false)
    (hstop : hasFlag flags fStopOnBlockBoundary = false) (hpos : outPos ≤ out.size)
    (hdone : (decompress r inp out outPos budget flags).status = stDone) :
    ∃ res, inflateSpec (out.extract 0 outPos) 32768 inp 0 = .accept res ∧
      (decompress r inp out outPos budget flags).written = res.out.size ∧
      (decompress r inp out outPos budget flags).consumed = (res.bitsUsed + 7) / 8 ∧
      (∀ i, i < res.out.size → (decompress r inp out outPos budget flags).out[outPos + i]? = res.out[i]?) := by
  obtain ⟨res, hacc, hroom⟩ := done_raw_flat r inp out outPos budget flags hstart hshape hflat hz hstop hpos hdone
  have := refine_raw_flat r inp out outPos budget flags 32768 res hstart hshape hflat hz hstop hpos hacc hroom
  exact ⟨res, hacc, this.2.1, this.2.2.1, this.2.2.2⟩

/-- `Done` is EQUIVALENT to: the reference decoder accepts and the plaintext fits the granted window. -/
theorem done_iff_valid_raw (r : Regs) (inp out : Array UInt8) (outPos budget flags : Nat)
    (hstart : r.state = sStart) (hshape : r.rawHeader.size = 4 ∧ r.tableSizes.size = 3 ∧ r.lenCodes.size = 512)
    (hflat : hasFlag flags fNonWrapping = true) (hz : hasFlag flags fParseZlib = false)
    (hstop : hasFlag flags fStopOnBlockBoundary = false) (hpos : outPos ≤ out.size) :
    (decompress r inp out outPos budget flags).status = stDone ↔
    ∃ res, inflateSpec (out.extract 0 outPos) 32768 inp 0 = .accept res ∧
      outPos + res.out.size ≤ min (outPos + budget) out.size := by
  refine ⟨done_raw_flat r inp out outPos budget flags hstart hshape hflat hz hstop hpos, ?_⟩
  rintro ⟨res, hacc, hroom⟩
  exact (refine_raw_flat r inp out outPos budget flags 32768 res hstart hshape hflat hz hstop hpos hacc hroom).1

/-- The property as stated: a raw stream the reference decoder does not accept is never reported `Done`. -/
theorem invalid_raw_stream_is_never_done (r : Regs) (inp out : Array UInt8) (outPos budget flags : Nat)
    (hstart : r.state = sStart) (hshape : r.rawHeader.size = 4 ∧ r.tableSizes.size = 3 ∧ r.lenCodes.size = 512)
    (hflat : hasFlag flags fNonWrapping = true) (hz : hasFlag flags fParseZlib = false)
    (hstop : hasFlag flags fStopOnBlockBoundary = false) (hpos : outPos ≤ out.size)
    (hinvalid : ∀ res, inflateSpec (out.extract 0 outPos) 32768 inp 0 ≠ .accept res) :
    (decompress r inp out outPos budget flags).status ≠ stDone := by
  intro hdone
  obtain ⟨res, hacc, _⟩ := done_implies_valid_raw r inp out outPos budget flags hstart hshape hflat hz hstop hpos hdone
  exact hinvalid res hacc

/-- DONE ⇒ VALID, zlib format: header, body and — unless the caller asked to ignore it — the Adler-32
    trailer. -/
theorem done_implies_valid_zlib (r : Regs) (inp out : Array UInt8) (outPos budget flags : Nat)
    (hstart : r.state = sStart) (hshape : r.rawHeader.size = 4 ∧ r.tableSizes.size = 3 ∧ r.lenCodes.size = 512)
    (hflat : hasFlag flags fNonWrapping = true) (hz : hasFlag flags fParseZlib = true)
    (hstop : hasFlag flags fStopOnBlockBoundary = false) (hpos : outPos ≤ out.size)
    (hdone : (decompress r inp out outPos budget flags).status = stDone) :
    ∃ zr, zlibSpec (out.extract 0 outPos) 32768 inp (!hasFlag flags fIgnoreAdler) = .accept zr ∧
      (decompress r inp out outPos budget flags).written = zr.inner.out.size ∧
      (decompress r inp out outPos budget flags).consumed = zr.bytesUsed ∧
      (∀ i, i < zr.inner.out.size → (decompress r inp out outPos budget flags).out[outPos + i]? = zr.inner.out[i]?) := by
  obtain ⟨zr, hacc, hroom⟩ := done_zlib_flat r inp out outPos budget flags hstart hshape hflat hz hstop hpos hdone
  obtain ⟨cmf, flg, a, b, c, d, h0, h1, hv, hi, ha, hb, hc, hd, _, hused⟩ := zlibSpec_inv hacc
  have h := refine_zlib_flat r inp out outPos budget flags 32768 zr.inner cmf flg a b c d hstart hshape hflat hz hstop
    hpos h0 h1 hv hi ha hb hc hd hroom
  exact ⟨zr, hacc, h.2.1, by rw [h.2.2.1, hused], h.2.2.2⟩

/-- … a zlib stream the reference decoder does not accept is never reported `Done`. -/
theorem invalid_zlib_stream_is_never_done (r : Regs) (inp out : Array UInt8) (outPos budget flags : Nat)
    (hstart : r.state = sStart) (hshape : r.rawHeader.size = 4 ∧ r.tableSizes.size = 3 ∧ r.lenCodes.size = 512)
    (hflat : hasFlag flags fNonWrapping = true) (hz : hasFlag flags fParseZlib = true)
    (hstop : hasFlag flags fStopOnBlockBoundary = false) (hpos : outPos ≤ out.size)
    (hinvalid : ∀ zr, zlibSpec (out.extract 0 outPos) 32768 inp (!hasFlag flags fIgnoreAdler) ≠ .accept zr) :
    (decompress r inp out outPos budget flags).status ≠ stDone := by
  intro hdone
  obtain ⟨zr, hacc, _⟩ := done_implies_valid_zlib r inp out outPos budget flags hstart hshape hflat hz hstop hpos hdone
  exact hinvalid zr hacc

/-- THE PREFIX CLAUSE FOR EVERY WINDOW: whatever part `a` of a stream `a ++ b` that the reference
    decoder accepts has been supplied (none, some, all of it, or more), and whatever the output window,
    the call is never reported as a failure: it is `Done`, or asks for more room, or is starved
    ("needs more input" with the more-input flag, "cannot make progress" without it). From the input
    extension lemma (a run that does not starve is the run over the longer input) and the
    window-decides-the-status theorems. -/
theorem prefix_of_valid_stream_never_fails (r : Regs) (a b out : Array UInt8) (outPos budget flags maxDist : Nat)
    (res : Inflated)
    (hstart : r.state = sStart) (hshape : r.rawHeader.size = 4 ∧ r.tableSizes.size = 3 ∧ r.lenCodes.size = 512)
    (hflat : hasFlag flags fNonWrapping = true) (hz : hasFlag flags fParseZlib = false)
    (hstop : hasFlag flags fStopOnBlockBoundary = false) (hpos : outPos ≤ out.size)
    (hspec : inflateSpec (out.extract 0 outPos) maxDist (a ++ b) 0 = .accept res) :
    (decompress r a out outPos budget flags).status = stDone ∨
    (decompress r a out outPos budget flags).status = stHasMoreOutput ∨
    (decompress r a out outPos budget flags).status = stNeedsMoreInput ∨
    (decompress r a out outPos budget flags).status = stFailedCannotMakeProgress :=
  prefix_never_fails r a b out outPos budget flags maxDist res hstart hshape hflat hz hstop hpos hspec

/-- UNDER ANY CALL SCHEDULE (with C07): a fresh decoder fed a raw stream in any chunks with any
    non-shrinking output grants (flat buffer), whose calls before the last were suspended and whose
    last call reports `Done`, has been fed a stream the reference decoder accepts; the calls together
    wrote exactly its plaintext and consumed exactly ⌈bits/8⌉ bytes. -/
theorem done_under_any_schedule_implies_valid (flags : Nat) (calls : List (Array UInt8 × Nat)) (out : Array UInt8)
    (c : Array UInt8) (g : Nat)
    (hflat : hasFlag flags fNonWrapping = true) (hz : hasFlag flags fParseZlib = false)
    (hstop : hasFlag flags fStopOnBlockBoundary = false)
    (hmono : grantsMono ((c, g) :: calls))
    (hsus : ∀ r ∈ (runCalls flags 0 {} out 0 #[] ((c, g) :: calls)).dropLast, suspended r)
    (last : Res) (hlast : (runCalls flags 0 {} out 0 #[] ((c, g) :: calls)).getLast? = some last)
    (hdone : last.status = stDone) :
    ∃ res, inflateSpec (out.extract 0 0) 32768 (#[] ++ catChunks ((c, g) :: calls)) 0 = .accept res ∧
      sumWritten (runCalls flags 0 {} out 0 #[] ((c, g) :: calls)) = res.out.size ∧
      sumConsumed (runCalls flags 0 {} out 0 #[] ((c, g) :: calls)) = (res.bitsUsed + 7) / 8 ∧
      (∀ i, i < res.out.size → last.out[0 + i]? = res.out[i]?) := by
  obtain ⟨h1, h2⟩ := C07.schedule_done_is_one_call flags calls out c g hflat hmono hsus last hlast
  obtain ⟨e1, e2, e3⟩ := h2 hdone
  obtain ⟨res, hacc, o2, o3, o4⟩ := done_implies_valid_raw {} _ out 0 _ flags rfl fresh_shape hflat hz hstop (Nat.zero_le _)
    (h1.trans hdone)
  exact ⟨res, hacc, e2.trans o2, e3.trans o3, fun i hi => by rw [← e1]; exact o4 i hi⟩

/-- The same for the zlib format (header, body and trailer cut anywhere). -/
theorem done_under_any_schedule_implies_valid_zlib (flags : Nat) (calls : List (Array UInt8 × Nat)) (out : Array UInt8)
    (c : Array UInt8) (g : Nat)
    (hflat : hasFlag flags fNonWrapping = true) (hz : hasFlag flags fParseZlib = true)
    (hstop : hasFlag flags fStopOnBlockBoundary = false)
    (hmono : grantsMono ((c, g) :: calls))
    (hsus : ∀ r ∈ (runCalls flags 0 {} out 0 #[] ((c, g) :: calls)).dropLast, suspended r)
    (last : Res) (hlast : (runCalls flags 0 {} out 0 #[] ((c, g) :: calls)).getLast? = some last)
    (hdone : last.status = stDone) :
    ∃ zr, zlibSpec (out.extract 0 0) 32768 (#[] ++ catChunks ((c, g) :: calls)) (!hasFlag flags fIgnoreAdler) = .accept zr ∧
      sumWritten (runCalls flags 0 {} out 0 #[] ((c, g) :: calls)) = zr.inner.out.size ∧
      sumConsumed (runCalls flags 0 {} out 0 #[] ((c, g) :: calls)) = zr.bytesUsed ∧
      (∀ i, i < zr.inner.out.size → last.out[0 + i]? = zr.inner.out[i]?) := by
  obtain ⟨h1, h2⟩ := C07.schedule_done_is_one_call flags calls out c g hflat hmono hsus last hlast
  obtain ⟨e1, e2, e3⟩ := h2 hdone
  obtain ⟨zr, hacc, o2, o3, o4⟩ := done_implies_valid_zlib {} _ out 0 _ flags rfl fresh_shape hflat hz hstop (Nat.zero_le _)
    (h1.trans hdone)
  exact ⟨zr, hacc, e2.trans o2, e3.trans o3, fun i hi => by rw [← e1]; exact o4 i hi⟩

/-- The reference decoder's verdict is never "out of fuel": not accepted = rejected or truncated. -/
theorem reference_decoder_always_decides (pre : Array UInt8) (maxDist : Nat) (data : Array UInt8) (startBit : Nat) :
    inflateSpec pre maxDist data startBit ≠ .fuel ∧ ∀ chk, zlibSpec pre maxDist data chk ≠ .fuel :=
  ⟨inflateSpec_ne_fuel pre maxDist data startBit, fun chk => zlibSpec_ne_fuel pre maxDist data chk⟩

/-- A complete code-length code decodes every bit pattern. -/
theorem complete_code_decodes_everything (lens : Array Nat) (hv : codeValid .clen lens = true) (data : Array UInt8)
    (pos : Nat) : decodeSym (mkCode lens) data pos ≠ .invalid :=
  decodeSym_complete hv data pos

/-- the hypotheses are those of a fresh decoder -/
example : ({} : Regs).state = sStart ∧ ({} : Regs).rawHeader.size = 4 ∧ ({} : Regs).tableSizes.size = 3 ∧
    ({} : Regs).lenCodes.size = 512 := ⟨rfl, fresh_shape⟩
/-- the invalid stream of seeded change C04d (a code-length code with one 1-bit symbol) is rejected by the reference decoder -/
example : (match inflateSpec #[] 32768 #[0x05, 0xe0, 0x01, 0x00, 0x00, 0x00, 0x00, 0x00, 0x10, 0xb4, 0xf9, 0x9f, 0x02, 0x01] 0 with
    | .reject .clenCode => true | _ => false) = true := by
  decide +kernel
end

section
open Model.Core Spec
/-! ### Local acceptance conditions: each invalid construct sends the automaton to a failure state -/
variable {e : Model.Core.Env} {c : Model.Core.Ctx} {out : Array UInt8}

theorem failure_state_stops_run (h : sDoneForever < c.r.state) (f : Nat) :
    run e (f + 1) c out = (stFailed, c, out) := by
  rw [run]; unfold step; rw [stepAt_failed _ h]

/-- reserved block type 3 -/
theorem reject_block_type_3 {c1 : Ctx} {bits : Nat} (hs : c.r.state = sReadBlockHeader)
    (hr : readBits e.inp 3 c = (c1, some bits)) (h3 : bits / 2 % 4 = 3) :
    ∃ c', step e c out = .cont c' out ∧ c'.r.state = sBlockTypeUnexpected :=
  (fails_blockType3 hs hr h3).state

/-- stored block whose LEN is not the complement of NLEN -/
theorem reject_stored_len_mismatch (hs : c.r.state = sRawHeader) (hc : ¬ c.r.counter < 4)
    (hbad : (c.r.rawHeader.getD 0 0 + 256 * c.r.rawHeader.getD 1 0) +
            (c.r.rawHeader.getD 2 0 + 256 * c.r.rawHeader.getD 3 0) ≠ 65535) :
    ∃ c', step e c out = .cont c' out ∧ c'.r.state = sBadRawLength := by
  rw [step_RawHeader hs]; unfold stRawHeader
  simp only [hc, ↓reduceIte, hbad, ne_eq, not_false_eq_true]
  exact ⟨_, rfl, rfl⟩

/-- HLIT > 286 or HDIST > 30 -/
theorem reject_table_sizes (hs : c.r.state = sReadTableSizes) (hc : ¬ c.r.counter < 3)
    (hbad : ¬ (c.r.tableSizes.getD 0 0 ≤ 286 ∧ c.r.tableSizes.getD 1 0 ≤ 30)) :
    ∃ c', step e c out = .cont c' out ∧ c'.r.state = sBadDistOrLiteralTableLength :=
  (fails_tableSizes hs hc hbad).state

/-- over-subscribed or incomplete code-length code -/
theorem reject_bad_clen_code (hs : c.r.state = sReadHufflenTableCodeSize) (hc : ¬ c.r.counter < c.r.tableSizes.getD 2 0)
    (hbt : c.r.blockType = 2) (hbad : codeValid .clen c.r.clenLens = false) :
    ∃ c', step e c out = .cont c' out ∧ c'.r.state = sBadTotalSymbols :=
  (fails_clenCode hs hc hbt hbad).state

/-- over-subscribed or incomplete literal/length or distance code (other than the ≤ 1-bit case) -/
theorem reject_bad_litlen_dist_code (hs : c.r.state = sReadLitlenDistTablesCodeSize)
    (hc : c.r.counter = c.r.tableSizes.getD 0 0 + c.r.tableSizes.getD 1 0) (hbt : c.r.blockType = 2)
    (hbad : codeValid .litlen (c.r.lenCodes.extract 0 (c.r.tableSizes.getD 0 0)) = false ∨
            codeValid .dist (c.r.lenCodes.extract (c.r.tableSizes.getD 0 0)
              (c.r.tableSizes.getD 0 0 + c.r.tableSizes.getD 1 0)) = false) :
    ∃ c', step e c out = .cont c' out ∧ c'.r.state = sBadTotalSymbols :=
  (fails_litlenDistCode hs hc hbt hbad).state

/-- more code lengths than HLIT + HDIST announced -/
theorem reject_code_length_overrun (hs : c.r.state = sReadLitlenDistTablesCodeSize)
    (hc : c.r.counter > c.r.tableSizes.getD 0 0 + c.r.tableSizes.getD 1 0) :
    ∃ c', step e c out = .cont c' out ∧ c'.r.state = sBadCodeSizeSum :=
  (fails_lengthOverrun hs hc).state

/-- repeat-previous code with no previous length -/
theorem reject_repeat_without_previous {c1 : Ctx} (hs : c.r.state = sReadLitlenDistTablesCodeSize)
    (hc : c.r.counter < c.r.tableSizes.getD 0 0 + c.r.tableSizes.getD 1 0)
    (hd : decodeHuff e.inp c.r.clenCode c = (c1, some 16)) (h0 : c1.r.counter = 0) :
    ∃ c', step e c out = .cont c' out ∧ c'.r.state = sBadCodeSizeDistPrevLookup := by
  rw [step_ReadLitlenDistTablesCodeSize hs]; unfold stReadLitlenDistTablesCodeSize
  simp only [hc, ↓reduceIte, hd, Nat.lt_irrefl, h0, and_self]
  exact ⟨_, rfl, rfl⟩

/-- literal/length symbols 286 and 287 (and the filler of an incomplete code) -/
theorem reject_bad_litlen_symbol (hs : c.r.state = sHuffDecodeOuterLoop1) (h1 : c.r.counter % 512 ≠ 256)
    (h2 : c.r.counter % 512 > 285) :
    ∃ c', step e c out = .cont c' out ∧ c'.r.state = sInvalidLitlen :=
  (fails_litlenSymbol hs h1 h2).state

/-- distance symbols 30 and 31 -/
theorem reject_bad_distance_symbol {c1 : Ctx} {sym : Nat} (hs : c.r.state = sDecodeDistance)
    (hd : decodeHuff e.inp c.r.distCode c = (c1, some sym)) (h : sym > 29) :
    ∃ c', step e c out = .cont c' out ∧ c'.r.state = sInvalidDist :=
  (fails_distSymbol hs hd h).state

/-- with a flat output buffer, a distance reaching before the start of the output -/
theorem reject_distance_before_start (hs : c.r.state = sHuffDecodeOuterLoop2) (hflat : e.ring = false)
    (h : c.r.dist > c.outPos) :
    ∃ c', step e c out = .cont c' out ∧ c'.r.state = sDistanceOutOfBounds :=
  (fails_distanceFar hs hflat h).state

/-- invalid zlib header (method, window field, preset dictionary, check bits) -/
theorem reject_bad_zlib_header {b : UInt8} (hs : c.r.state = sReadZlibFlg) (hb : e.inp[c.inPos]? = some b)
    (hbad : zlibHeaderValid c.r.zHeader0 b.toNat = false) :
    ∃ c', step e c out = .cont c' out ∧ c'.r.state = sBadZlibHeader :=
  (fails_zlibHeader hs hb hbad).state

/-- all of the above are failure states -/
theorem rejection_states_are_failures :
    sDoneForever < sBlockTypeUnexpected ∧ sDoneForever < sBadRawLength ∧ sDoneForever < sBadDistOrLiteralTableLength ∧
    sDoneForever < sBadTotalSymbols ∧ sDoneForever < sBadCodeSizeSum ∧ sDoneForever < sBadCodeSizeDistPrevLookup ∧
    sDoneForever < sInvalidLitlen ∧ sDoneForever < sInvalidDist ∧ sDoneForever < sDistanceOutOfBounds ∧
    sDoneForever < sBadZlibHeader := by decide

end


end C04
