/-
C10 — compressor output is valid for independent decoders and honours level/strategy.
Over tables and functions REGENERATED from the source:
 * the compressor's length/distance symbol + extra-bit tables are inverted by the RFC formulas of
   Spec/Inflate (`lengthBaseExtra`, `distBaseExtra`) for EVERY match length 3..258 and EVERY
   distance 1..32768 (the lookup expressions of `compress_lz_codes`/`record_match` are restated
   here as `lenCode`/`distCode`; that restatement is hand-written);
 * routing: which engine each flag word selects, and the mode facts that follow from flags alone.
Then, independent of the source: an encoder specification of RFC 1951 that the reference decoder
(and with C03 the decoder model) inverts — what "valid for independent decoders" is measured against.
And over hand-written models of two pieces of the Huffman stage, each tied to the source by replay:
the code-length packing of `start_dynamic_block` (`Model/DeflRle`) and the length limiting
`enforce_max_code_size` (`Model/HuffLimit`).
The match finder and the Huffman builder's frequency-to-length step are not modelled: validity of
the emitted token stream itself is checked by the Lean reference decoder on every run (oracle leg);
see DESIGN.md §7 C10.
-/
import MinizProof.Gen.All
import MinizProof.Spec.Inflate
import MinizProof.Lemmas.Finite
import MinizProof.Lemmas.GenArith
import MinizProof.Props.C02
import MinizProof.Props.C03
import MinizProof.Lemmas.EncDynamic
import MinizProof.Lemmas.EncStored
import MinizProof.Lemmas.DeflRle
import MinizProof.Lemmas.HuffLimit
import MinizProof.Lemmas.HuffValid
open Fin'

namespace C10
open Gen.DeflCore

/-- `compress_lz_codes`: symbol, number of extra bits, extra value for the stored length byte `c = len − 3`. -/
def lenCode (c : Nat) : Nat × Nat × Nat :=
  let sym := (G.band (.u 8) (G.idx LEN_SYM c) 31).toNat + LEN_SYM_OFFSET.toNat
  let ne := (G.idx LEN_EXTRA c).toNat
  let ev := (G.band (.u 64) (Int.ofNat c) (G.idx BITMASKS (G.band (.u 8) (G.idx LEN_EXTRA c) 7))).toNat
  (sym, ne, ev)

/-- `compress_lz_codes`: symbol, number of extra bits, extra value for the stored distance `d = dist − 1`. -/
def distCode (d : Nat) : Nat × Nat × Nat :=
  let sym := if d < 512 then (G.idx SMALL_DIST_SYM d).toNat else (G.idx LARGE_DIST_SYM (d / 256)).toNat
  let ne := if d < 512 then (G.idx SMALL_DIST_EXTRA (d / 4)).toNat else (G.idx LARGE_DIST_EXTRA (d / 256)).toNat
  let ev := (G.band (.u 64) (Int.ofNat d) (G.idx BITMASKS (Int.ofNat (ne % 16)))).toNat
  (sym, ne, ev)

def lenOk (c : Nat) : Bool :=
  let (sym, ne, ev) := lenCode c
  let (base, e) := Spec.lengthBaseExtra sym
  decide (257 ≤ sym) && decide (sym ≤ 285) && (e == ne) && (base + ev == c + 3) && decide (ev < 2 ^ ne)

def distOk (d : Nat) : Bool :=
  let (sym, ne, ev) := distCode d
  let (base, e) := Spec.distBaseExtra sym
  decide (sym ≤ 29) && (e == ne) && (base + ev == d + 1) && decide (ev < 2 ^ ne)

theorem table_sizes : BITMASKS.size = 17 ∧ LEN_SYM.size = 256 ∧ LEN_EXTRA.size = 256 ∧ SMALL_DIST_SYM.size = 512 ∧
    SMALL_DIST_EXTRA.size = 128 ∧ LARGE_DIST_SYM.size = 128 ∧ LARGE_DIST_EXTRA.size = 128 := by decide +kernel

/-- `BITMASKS[k] = 2^k − 1`: masking with it keeps the low `k` bits. -/
theorem bitmask_low_bits (v k : Nat) (hv : v < 2 ^ 64) (hk : k ≤ 16) :
    (G.band (.u 64) (v : Int) (G.idx BITMASKS (k : Int))).toNat = v % 2 ^ k := by
  have htab : allAt (fun k x => x == ((2 ^ k - 1 : Nat) : Int)) 0 BITMASKS.toList = true := by decide +kernel
  have hm := allAt_spec htab k _ (G.idx_natCast BITMASKS table_sizes.1 k (by omega))
  simp only [Nat.zero_add, beq_iff_eq] at hm
  have h2 : 2 ^ k ≤ 2 ^ 16 := Nat.pow_le_pow_right (by decide) hk
  rw [hm, G.band_u64_nat v _ hv (by omega), Int.toNat_natCast, Nat.and_two_pow_sub_one_eq_mod]

/-- One row of the length tables: the stored byte `c = len − 3` with its entries `r.1` of `LEN_SYM` and
    `r.2` of `LEN_EXTRA`, the masks already read as "low bits". -/
def lenRowOk (c : Nat) (r : Int × Int) : Bool :=
  let sym := r.1.toNat % 32 + 256
  let ne := r.2.toNat
  let (base, e) := Spec.lengthBaseExtra sym
  decide (0 ≤ r.1) && decide (r.1 < 256) && decide (0 ≤ r.2) && decide (r.2 < 8) &&
  decide (257 ≤ sym) && decide (sym ≤ 285) && (e == ne) && (base + c % 2 ^ ne == c + 3)

theorem length_rows : allAt lenRowOk 0 (LEN_SYM.toList.zip LEN_EXTRA.toList) = true := by decide +kernel

/-- Every match length 3..258 is encoded as a length symbol 257..285 plus extra bits that the
    RFC formula decodes back to the same length. -/
theorem length_codes_inverse : ∀ len, 3 ≤ len → len ≤ 258 → lenOk (len - 3) = true := by
  intro len h3 h258
  generalize hc : len - 3 = c
  have hc256 : c < 256 := by omega
  have hrow := allAt_spec length_rows c _ (G.zip_idx_natCast LEN_SYM LEN_EXTRA table_sizes.2.1 table_sizes.2.2.1 c hc256)
  unfold lenOk lenCode
  generalize G.idx LEN_SYM c = s at hrow ⊢
  generalize G.idx LEN_EXTRA c = x at hrow ⊢
  unfold lenRowOk at hrow
  cases hL : Spec.lengthBaseExtra (s.toNat % 32 + 256) with | mk base e => ?_
  simp only [hL, Nat.zero_add, Bool.and_eq_true, decide_eq_true_eq, beq_iff_eq] at hrow
  obtain ⟨⟨⟨⟨⟨⟨⟨s0, s256⟩, x0⟩, x8⟩, h257⟩, h285⟩, he⟩, hbase⟩ := hrow
  rw [G.band_low 8 5 s 31 s0 s256 (by decide) rfl, G.band_low 8 3 x 7 x0 (by omega) (by decide) rfl,
    Nat.mod_eq_of_lt (show x.toNat < 2 ^ 3 by omega), Int.ofNat_eq_natCast, bitmask_low_bits c x.toNat (by omega) (by omega)]
  simp only [Int.toNat_natCast, show LEN_SYM_OFFSET.toNat = 256 from rfl, hL, he, hbase, h257, h285, BEq.rfl,
    decide_true, Bool.and_true, Bool.true_and, decide_eq_true_eq]
  exact Nat.mod_lt _ (Nat.two_pow_pos _)

/-- What a distance needs from its table entries: symbol `sym` and extra-bit count `ne`, the mask
    already read as "low bits". -/
def distRowOk (d sym ne : Nat) : Bool :=
  let (base, e) := Spec.distBaseExtra sym
  decide (sym ≤ 29) && (e == ne) && decide (ne < 16) && (base + d % 2 ^ ne == d + 1)

theorem distOk_of_row {d sym ne : Nat} (hd : d < 2 ^ 64)
    (hs : (if d < 512 then (G.idx SMALL_DIST_SYM d).toNat else (G.idx LARGE_DIST_SYM (d / 256)).toNat) = sym)
    (hn : (if d < 512 then (G.idx SMALL_DIST_EXTRA (d / 4)).toNat else (G.idx LARGE_DIST_EXTRA (d / 256)).toNat) = ne)
    (h : distRowOk d sym ne = true) : distOk d = true := by
  unfold distRowOk at h
  unfold distOk distCode
  cases hL : Spec.distBaseExtra sym with | mk base e => ?_
  simp only [hL, Bool.and_eq_true, decide_eq_true_eq, beq_iff_eq] at h
  obtain ⟨⟨⟨h29, he⟩, h16⟩, hbase⟩ := h
  rw [hs, hn]
  dsimp only
  rw [Nat.mod_eq_of_lt h16, Int.ofNat_eq_natCast, Int.ofNat_eq_natCast, bitmask_low_bits d ne hd (by omega)]
  simp only [hL, he, hbase, h29, BEq.rfl, decide_true, Bool.and_true, Bool.true_and, decide_eq_true_eq]
  exact Nat.mod_lt _ (Nat.two_pow_pos _)

/-- Extra bits of the distances `4q + 1 … 4q + 4`: the content of `SMALL_DIST_EXTRA[q]`. -/
def smallExtra (q : Nat) : Nat := if q = 0 then 0 else Nat.log2 q + 1

theorem small_sym_rows :
    allAt (fun d s => distRowOk d s.toNat (smallExtra (d / 4))) 0 SMALL_DIST_SYM.toList = true := by decide +kernel
theorem small_extra_rows :
    allAt (fun q x => x.toNat == smallExtra q) 0 SMALL_DIST_EXTRA.toList = true := by decide +kernel

theorem small_distances : ∀ d, d < 512 → distOk d = true := by
  intro d hd
  have hx := allAt_spec small_extra_rows (d / 4) _ (G.idx_natCast SMALL_DIST_EXTRA table_sizes.2.2.2.2.1 (d / 4) (by omega))
  have hs := allAt_spec small_sym_rows d _ (G.idx_natCast SMALL_DIST_SYM table_sizes.2.2.2.1 d hd)
  rw [Nat.zero_add] at hx hs
  refine distOk_of_row (by omega) (if_pos hd) ?_ hs
  rw [if_pos hd, show (d : Int) / 4 = ((d / 4 : Nat) : Int) by omega]
  exact beq_iff_eq.mp hx

theorem add_mod_of_lt {a b m : Nat} (h : a % m + b < m) : (a + b) % m = a % m + b := by
  rw [Nat.add_mod, Nat.mod_eq_of_lt (show b < m by omega), Nat.mod_eq_of_lt h]

/-- One row of the large-distance tables (index `h = d / 256`, entries `r.1` of `LARGE_DIST_SYM` and `r.2` of
    `LARGE_DIST_EXTRA`): at least 8 extra bits, and the 256 distances of the row lie in one aligned block of
    `2^ne` that starts at the symbol's base. -/
def largeRowOk (h : Nat) (r : Int × Int) : Bool :=
  let ne := r.2.toNat
  let (base, e) := Spec.distBaseExtra r.1.toNat
  decide (r.1.toNat ≤ 29) && (e == ne) && decide (ne < 16) &&
  decide (256 * h % 2 ^ ne + 255 < 2 ^ ne) && (base + 256 * h % 2 ^ ne == 256 * h + 1)

theorem large_rows :
    allAt (fun h r => decide (h < 2) || largeRowOk h r) 0 (LARGE_DIST_SYM.toList.zip LARGE_DIST_EXTRA.toList) = true := by
  decide +kernel

/-- Every distance 1..32768 is encoded as a distance symbol 0..29 plus extra bits that the RFC
    formula decodes back to the same distance. -/
theorem distance_codes_inverse : ∀ dist, 1 ≤ dist → dist ≤ 32768 → distOk (dist - 1) = true := by
  intro dist h1 h2
  generalize hd : dist - 1 = d
  by_cases hs : d < 512
  · exact small_distances _ hs
  · have hh : d / 256 < 128 := by omega
    have hrow := allAt_spec large_rows (d / 256) _
      (G.zip_idx_natCast LARGE_DIST_SYM LARGE_DIST_EXTRA table_sizes.2.2.2.2.2.1 table_sizes.2.2.2.2.2.2 _ hh)
    have hcast : (d : Int) / 256 = ((d / 256 : Nat) : Int) := by omega
    refine distOk_of_row (by omega) (by rw [if_neg hs, hcast]) (by rw [if_neg hs, hcast]) ?_
    generalize G.idx LARGE_DIST_SYM (d / 256 : Nat) = s at hrow ⊢
    generalize G.idx LARGE_DIST_EXTRA (d / 256 : Nat) = x at hrow ⊢
    unfold largeRowOk at hrow
    unfold distRowOk
    cases hL : Spec.distBaseExtra s.toNat with | mk base e => ?_
    simp only [hL, Nat.zero_add, Bool.or_eq_true, Bool.and_eq_true, decide_eq_true_eq, beq_iff_eq] at hrow ⊢
    obtain hlt | ⟨⟨⟨⟨h29, he⟩, h16⟩, hfit⟩, hbase⟩ := hrow
    · omega
    · refine ⟨⟨⟨h29, he⟩, h16⟩, ?_⟩
      have hsplit : d = 256 * (d / 256) + d % 256 := (Nat.div_add_mod d 256).symm
      have hlo : d % 256 < 256 := Nat.mod_lt _ (by decide)
      rw [hsplit, add_mod_of_lt (by omega)]
      omega

/-- `record_match` counts the same distance symbol that `compress_lz_codes` later emits
    (its extra `& 127` on the table index is the identity for distances up to 32768). -/
theorem record_match_same_symbol : ∀ d : Nat, d < 32768 →
    (if d < 512 then G.idx SMALL_DIST_SYM (Int.ofNat d) else G.idx LARGE_DIST_SYM (Int.ofNat ((d / 256) % 128))) =
    (if d < 512 then G.idx SMALL_DIST_SYM (Int.ofNat d) else G.idx LARGE_DIST_SYM (Int.ofNat (d / 256))) := by
  intro d hd
  have : (d / 256) % 128 = d / 256 := Nat.mod_eq_of_lt (by omega)
  rw [this]

/-- Flags of every (level 0..10, strategy 0..4, format) as `create_comp_flags_from_zip_params` builds them. -/
def flagsOf (level strategy zlib : Nat) : Int :=
  create_comp_flags_from_zip_params (Int.ofNat level) (Int.ofNat zlib) (Int.ofNat strategy)

/-- Mode facts that follow from the flag word alone, for all 11 × 5 × 2 configurations:
    level 0 is routed to `compress_stored` with FORCE_ALL_RAW_BLOCKS; the Fixed strategy sets
    FORCE_ALL_STATIC_BLOCKS; Huffman-only has zero probes (so `find_match` returns at once) and
    is never routed to `compress_fast`; RLE and Filtered set their flags and are routed to
    `compress_normal`. -/
theorem mode_flags : ∀ level strategy zlib, level < 11 → strategy < 5 → zlib < 2 →
    let f := flagsOf level strategy zlib
    (level = 0 → route f = 0 ∧ G.band (.u 32) f TDEFL_FORCE_ALL_RAW_BLOCKS ≠ 0) ∧
    (level ≠ 0 → route f ≠ 0) ∧
    (level ≠ 0 → strategy = 4 → G.band (.u 32) f TDEFL_FORCE_ALL_STATIC_BLOCKS ≠ 0) ∧
    (level ≠ 0 → strategy = 2 → G.band (.u 32) f MAX_PROBES_MASK = 0 ∧ route f = 2 ∧ G.idx (probes_from_flags f) 0 = 1) ∧
    (level ≠ 0 → strategy = 3 → G.band (.u 32) f TDEFL_RLE_MATCHES ≠ 0 ∧ route f = 2) ∧
    (level ≠ 0 → strategy = 1 → G.band (.u 32) f TDEFL_FILTER_MATCHES ≠ 0 ∧ route f = 2) := by
  have h : allBelow 11 (fun l => allBelow 5 (fun s => allBelow 2 (fun z =>
      let f := flagsOf l s z
      (if l = 0 then (route f == 0) && (G.band (.u 32) f TDEFL_FORCE_ALL_RAW_BLOCKS != 0) else
        (route f != 0) &&
        (if s = 4 then G.band (.u 32) f TDEFL_FORCE_ALL_STATIC_BLOCKS != 0 else true) &&
        (if s = 2 then (G.band (.u 32) f MAX_PROBES_MASK == 0) && (route f == 2) && (G.idx (probes_from_flags f) 0 == 1) else true) &&
        (if s = 3 then (G.band (.u 32) f TDEFL_RLE_MATCHES != 0) && (route f == 2) else true) &&
        (if s = 1 then (G.band (.u 32) f TDEFL_FILTER_MATCHES != 0) && (route f == 2) else true))))) = true := by
    decide +kernel
  intro level strategy zlib hl hs hz
  have := allBelow_spec (allBelow_spec (allBelow_spec h level hl) strategy hs) zlib hz
  by_cases h0 : level = 0
  · simp only [h0, ↓reduceIte, Bool.and_eq_true, beq_iff_eq, bne_iff_ne, ne_eq] at this
    simp [h0, this]
  · simp only [h0, ↓reduceIte, Bool.and_eq_true, bne_iff_ne, ne_eq] at this
    obtain ⟨⟨⟨⟨a, b⟩, c⟩, d⟩, e⟩ := this
    refine ⟨fun x => absurd x h0, fun _ => a, ?_, ?_, ?_, ?_⟩
    · intro _ hs4; simpa [hs4] using b
    · intro _ hs2; subst hs2; simp only [↓reduceIte, Bool.and_eq_true, beq_iff_eq] at c; exact ⟨c.1.1, c.1.2, c.2⟩
    · intro _ hs3; simpa [hs3] using d
    · intro _ hs1; simpa [hs1] using e

example : lenCode 255 = (285, 0, 0) := by decide +kernel
example : distCode 32767 = (29, 13, 8191) := by decide +kernel

/-- The emitted bits are the codes: `compress_lz_codes` never pushes more bits into its 64-bit
    accumulator than it holds (otherwise high bits of a code are silently dropped in release builds
    and the stream is invalid or decodes to other bytes). Same statement as `C02.lz_bitbuffer_never_overflows`,
    over the same regenerated constants (literal batch size, code-size limits, extra-bit tables);
    restated here because validity of the output for independent decoders is this property. -/
theorem emitted_codes_fit_the_bit_buffer :
    let codeMax := max (C02.maxOf Gen.DeflCore.DYN_CODE_SIZE_LIMITS) (C02.maxOf Gen.DeflCore.STATIC_CODE_SIZE_LIMITS)
    7 + max (Gen.DeflCore.LZ_LITERAL_BATCH * codeMax)
            (codeMax + C02.maxOf Gen.DeflCore.LEN_EXTRA + codeMax +
              max (C02.maxOf Gen.DeflCore.SMALL_DIST_EXTRA) (C02.maxOf Gen.DeflCore.LARGE_DIST_EXTRA)) ≤ 64 ∧
    codeMax ≤ 15 ∧ G.idx Gen.DeflCore.DYN_CODE_SIZE_LIMITS 2 ≤ 7 := C02.lz_bitbuffer_never_overflows

/-! ### An encoder specification, and the reference decoder inverts it

Everything the checks conclude about compressed data rests on the Lean reference decoder
(`Spec.inflateSpec`): it defines "valid" and "the plaintext". To make it more than a text to be
believed, here is the other direction of RFC 1951 written down independently — canonical code
assignment (first code of each length + rank), tokens as symbols with extra-bit values, static and
dynamic blocks with their headers, the code-length alphabet with ANY run-length coding of the code
lengths — and the proof that the reference decoder reads every such encoding back to exactly the
LZ77 expansion of its tokens (`Lemmas/HuffCanon, EncTokens, EncBlocks, EncDynamic`). With C03 the
decoder MODEL then decodes every conforming encoding, too. "The stream holds these bits" is the
predicate `HasBits`; nothing is assumed about what follows them. -/
open Model.Core Spec in
/-- THE REFERENCE DECODER INVERTS THE CANONICAL CODE (RFC 1951 §3.2.2): for every set of code lengths
    that is not over-subscribed and every symbol `s` with a non-zero length `L ≤ 15`, if the stream
    holds from bit `pos` the `L` bits of `canonCode lens s` (first code of length `L` + rank of `s`
    among the symbols of that length), most significant first, then the counting decoder returns `s`
    and the position right after them; and that code fits `L` bits. -/
theorem canonical_code_round_trip (lens : Array Nat) (data : Array UInt8) (pos s r : Nat) (hs : s < lens.size)
    (hk : kraftLeft (countLens lens) = some r) (h1 : 1 ≤ lens.getD s 0) (h15 : lens.getD s 0 ≤ 15)
    (hbits : ∀ i, i < lens.getD s 0 → bitAt data (pos + i) = some (codeBit (canonCode lens s) (lens.getD s 0) i)) :
    decodeSym (mkCode lens) data pos = .sym s (pos + lens.getD s 0) ∧ canonCode lens s < 2 ^ lens.getD s 0 :=
  canonical_code_is_decoded lens data pos s r hs hk h1 h15 hbits

open Model.Core in
/-- the blocks an encoder may write: static-Huffman, dynamic-Huffman with a well-formed header, or
    stored (up to 65535 bytes, zero padding to the byte boundary) -/
inductive StdBlock : EncBlock → Prop
  | static (final : Bool) (toks : List SymTok) : StdBlock (encStatic final toks)
  | dynamic (final : Bool) (h : DynHdr) (toks : List SymTok) : h.Ok → StdBlock (encDynamic final h toks)
  | stored (final : Bool) (bytes : List Nat) : bytes.length ≤ 65535 → (∀ b ∈ bytes, b < 256) → StdBlock (encStored final bytes)

open Model.Core in
/-- a well-formed stream of such blocks: tokens expressible with the block's codes, every match
    reaching back over bytes that exist (at most `maxDist`), exactly the last block marked final -/
def StreamOk (maxDist : Nat) : Array UInt8 → List EncBlock → Prop
  | _, [] => False
  | out, [b] => b.final = true ∧ StdBlock b ∧ ToksOk b.litLens b.distLens #[] maxDist out b.toks
  | out, b :: b' :: rest => b.final = false ∧ StdBlock b ∧ ToksOk b.litLens b.distLens #[] maxDist out b.toks ∧
      StreamOk maxDist (expandToks #[] out b.toks) (b' :: rest)

open Model.Core in
theorem StdBlock.decodes {b : EncBlock} (h : StdBlock b) (maxDist : Nat) : b.Decodes #[] maxDist ∧ ∀ p, b.bits p ≠ [] := by
  cases h with
  | static final toks =>
    refine ⟨encStatic_decodes #[] maxDist final toks, fun p hh => ?_⟩
    have := congrArg List.length hh
    simp [encStatic, bitsLE_length] at this
  | dynamic final hd toks hok =>
    refine ⟨encDynamic_decodes #[] maxDist final hd hok toks, fun p hh => ?_⟩
    have := congrArg List.length hh
    simp [encDynamic, bitsLE_length] at this
  | stored final bytes hl hb =>
    refine ⟨encStored_decodes #[] maxDist final bytes hl hb, fun p hh => ?_⟩
    have := congrArg List.length hh
    simp [encStored, bitsLE_length] at this

open Model.Core in
theorem StreamOk.blocksOk (maxDist : Nat) : ∀ (bs : List EncBlock) (out : Array UInt8), StreamOk maxDist out bs →
    BlocksOk #[] maxDist out bs := by
  intro bs
  induction bs with
  | nil => intro out h; exact h
  | cons b rest ih =>
    intro out h
    cases rest with
    | nil =>
      obtain ⟨hf, hs, ht⟩ := h
      exact ⟨hf, (hs.decodes maxDist).2, (hs.decodes maxDist).1, ht⟩
    | cons b' rest' =>
      obtain ⟨hf, hs, ht, hr⟩ := h
      exact ⟨hf, (hs.decodes maxDist).2, (hs.decodes maxDist).1, ht, ih _ hr⟩

open Model.Core Spec in
/-- THE REFERENCE DECODER INVERTS THE ENCODER SPECIFICATION: a byte string that holds, from its first
    bit, the bits of any well-formed sequence of static, dynamic and stored blocks — any tokens, any valid
    code lengths, any run-length coding of them in the header — is accepted by `Spec.inflateSpec`
    with exactly the LZ77 expansion of the tokens as its plaintext and exactly those bits consumed,
    whatever follows. -/
theorem deflate_encoding_round_trip (maxDist : Nat) (data : Array UInt8) (bs : List EncBlock)
    (hok : StreamOk maxDist #[] bs) (h : HasBits data 0 (blocksBits 0 bs)) :
    ∃ res, inflateSpec #[] maxDist data 0 = .accept res ∧ res.out = expandBlocks #[] #[] bs ∧
      res.bitsUsed = (blocksBits 0 bs).length :=
  inflateSpec_enc maxDist data bs (hok.blocksOk maxDist bs #[]) h

open Model.Core Spec in
/-- … AND SO DOES THE DECODER MODEL (with C03): one call on such a byte string, flat buffer with room
    for the expansion, reports `Done`, has written exactly the expansion and consumed exactly the
    encoding (rounded up to a byte). -/
theorem decoder_model_decodes_every_conforming_encoding (data out : Array UInt8) (budget flags : Nat) (bs : List EncBlock)
    (hflat : hasFlag flags fNonWrapping = true) (hz : hasFlag flags fParseZlib = false)
    (hstop : hasFlag flags fStopOnBlockBoundary = false)
    (hok : StreamOk 32768 #[] bs) (h : HasBits data 0 (blocksBits 0 bs))
    (hroom : (expandBlocks #[] #[] bs).size ≤ min budget out.size) :
    (decompress {} data out 0 budget flags).status = stDone ∧
    (decompress {} data out 0 budget flags).written = (expandBlocks #[] #[] bs).size ∧
    (decompress {} data out 0 budget flags).consumed = ((blocksBits 0 bs).length + 7) / 8 ∧
    (∀ i, i < (expandBlocks #[] #[] bs).size →
      (decompress {} data out 0 budget flags).out[i]? = (expandBlocks #[] #[] bs)[i]?) := by
  obtain ⟨res, hacc, hout, hbits⟩ := deflate_encoding_round_trip 32768 data bs hok h
  have := C03.valid_raw_stream_decodes_one_shot {} data out 0 budget flags 32768 res rfl Model.Core.fresh_shape hflat hz hstop
    (Nat.zero_le _) (by simpa using hacc) (by rw [hout]; simpa using hroom)
  rw [hout, hbits] at this
  obtain ⟨a1, a2, a3, a4⟩ := this
  exact ⟨a1, a2, a3, fun i hi => by have := a4 i hi; rwa [Nat.zero_add] at this⟩

-- non-vacuity: a final static block "a", then a match of length 4 at distance 1; 4b 04 01 00 holds its bits
open Model.Core in
example : HasBits #[0x4b, 0x04, 0x01, 0x00] 0 (blocksBits 0 [encStatic true [.lit 97, .copy 258 0 0 0]]) := by
  have hsz : Spec.fixedLitLens.size = 288 := Array.size_ofFn
  have hb : blocksBits 0 [encStatic true [.lit 97, .copy 258 0 0 0]] =
      [1,1,0,1,0,0,1,0, 0,0,1,0,0,0,0,0, 1,0,0,0,0,0,0,0, 0,0,0,0,0,0] := by
    -- the three literal/length codes from the list form of the fixed lengths; `fixedLitLens` itself is slow to evaluate
    simp only [blocksBits, encStatic, encToks, encTok]
    rw [codeBits_eq _ (by rw [hsz]; decide) (Spec.fixedLitLens_getD 97) Spec.fixedLit_firstAt.2.1,
      codeBits_eq _ (by rw [hsz]; decide) (Spec.fixedLitLens_getD 258) Spec.fixedLit_firstAt.1,
      codeBits_eq _ (by rw [hsz]; decide) (Spec.fixedLitLens_getD 256) Spec.fixedLit_firstAt.1, Spec.fixedLitLens_toList]
    decide +kernel
  rw [hb]
  intro i hi
  have : ∀ j, j < 30 → Spec.bitAt #[0x4b, 0x04, 0x01, 0x00] (0 + j) =
      some ([1,1,0,1,0,0,1,0, 0,0,1,0,0,0,0,0, 1,0,0,0,0,0,0,0, 0,0,0,0,0,0].getD j 0) := by decide +kernel
  exact this i hi

/-! ### The compressor's code-length packing (`start_dynamic_block`), modelled and proved

`Model/DeflRle` is a line-by-line model of the run-length coder `Rle` (`prev_code_size`,
`zero_code_size`, the loop over the code sizes, the final flush) and of the HCLEN choice. The tie
(`dynhdr`, op ENC) rebuilds the header of every dynamic block the compressor emitted from the
block's code lengths with THIS model and compares it bit for bit with what was emitted, from the
block's first bit to its first token. -/
open Model.Core Model.Rle in
/-- THE RUN-LENGTH CODER IS CORRECT FOR EVERY INPUT: whatever the list of code sizes (each at most
    15), the symbols the packer emits — sizes, "repeat previous 3..6 times", "3..10 zeros",
    "11..138 zeros" — expand under the reference decoder's reading to exactly that list, and every
    symbol is well-formed where it stands (extra-bit values in range, a repeat only after a size). -/
theorem code_length_packing_is_correct (lens : List Nat) (h15 : ∀ l ∈ lens, l ≤ 15) :
    (applyAll #[] (rlePack lens)).toList = lens ∧ SOk #[] (rlePack lens) := rlePack_spec lens h15

open Model.Core Model.Rle in
/-- … AND THE REFERENCE DECODER READS IT BACK: with any usable code-length code that has a code for
    every symbol the packer used, `readLens` on the emitted bits returns exactly the code sizes and
    stops exactly after them. -/
theorem packed_code_lengths_are_read_back (lens : List Nat) (h15 : ∀ l ∈ lens, l ≤ 15) (clens : Array Nat) (hc : CodeOk clens)
    (hcodes : ∀ c ∈ rlePack lens, c.sym < clens.size ∧ 1 ≤ clens.getD c.sym 0)
    (data : Array UInt8) (fuel pos : Nat) (hf : (rlePack lens).length < fuel)
    (h : HasBits data pos (encCSyms clens (rlePack lens))) :
    Spec.readLens (Spec.mkCode clens) data lens.length fuel pos #[] =
      .accept (pos + (encCSyms clens (rlePack lens)).length, lens.toArray) :=
  packed_lens_round_trip lens h15 clens hc hcodes data fuel pos hf h

open Model.Core Model.Rle in
/-- THE DYNAMIC BLOCK THE MODEL OF `start_dynamic_block` WRITES IS A CONFORMING BLOCK — for every output
    of a Huffman builder that delivers usable codes (257..286 literal/length and 1..30 distance code
    sizes ≤ 15, valid as codes, end-of-block coded; 19 code-length-code sizes below 8, valid, with a
    code for every symbol the packer used): the header (HLIT, HDIST, HCLEN with trailing zero entries
    implied, the packed code sizes) followed by any well-formed tokens is one of the blocks of the
    encoder specification, so `deflate_encoding_round_trip` and everything after it applies to it. -/
theorem dynamic_block_of_the_model_is_conforming (final : Bool) (litLens distLens clens : Array Nat) (toks : List SymTok)
    (hl : 257 ≤ litLens.size ∧ litLens.size ≤ 286) (hd : 1 ≤ distLens.size ∧ distLens.size ≤ 30)
    (h15 : ∀ l ∈ litLens.toList ++ distLens.toList, l ≤ 15)
    (hcs : clens.size = 19) (hc8 : ∀ i, clens.getD i 0 < 8)
    (hcv : Spec.codeValid .clen clens = true)
    (hcodes : ∀ c ∈ rlePack (litLens.toList ++ distLens.toList), 1 ≤ clens.getD c.sym 0)
    (hlv : Spec.codeValid .litlen litLens = true) (hdv : Spec.codeValid .dist distLens = true)
    (heob : 1 ≤ litLens.getD 256 0) :
    StdBlock (encDynamic final (header litLens distLens clens) toks) :=
  .dynamic final _ toks (model_header_ok litLens distLens clens hl hd h15 hcs hc8 hcv hcodes hlv hdv heob)


/-! ### The Huffman builder's length limiting (`enforce_max_code_size`) -/
open Model.HuffLimit in
/-- LENGTH LIMITING KEEPS THE CODE COMPLETE — `HuffmanOxide::enforce_max_code_size` (model
    `Model.HuffLimit.enforce`, tied to the source by op `HLIM`: every call the real `optimize_table`
    made in the run, plus generated histograms) for EVERY histogram of a prefix code: `n[i]` codes of
    length `i` (`n[0]` unused, any number of lengths, counts ≥ 0, Kraft sum at most 1), `len` = number
    of codes ≥ 2 and at most `2^max`. Afterwards the counts of the lengths `1..max` are non-negative
    and still add up to `len` (no code lost, none longer than the limit is counted there), the
    Kraft sum of those lengths is at most 1, and it is EXACTLY 1 whenever the histogram was complete
    before — which is what a Huffman tree over ≥ 2 symbols gives — so the limited code is again a
    complete prefix code, the only kind (besides the single-code case) an RFC 1951 decoder accepts.
    Everything outside the lengths `1..max` is left as it is. Induction over the loop with the
    invariant "counts ≥ 0, the levels above the deepest weigh at most a full tree, at most `2^max`
    codes": each round lowers the weight by exactly one. -/
theorem length_limiting_restores_a_complete_code (n : List Int) (len max : Nat) (h2 : 2 ≤ len) (hmax : 1 ≤ max)
    (hlen : max + 1 ≤ n.length) (hnn : ∀ x ∈ n, 0 ≤ x) (hcnt : (n.drop 1).sum = len)
    (hfit : (len : Int) ≤ 2 ^ max) (hk : kraft (n.drop 1) ≤ 2 ^ (n.length - 1)) :
    ∃ lv, enforce n len max = n.take 1 ++ lv ++ n.drop (max + 1) ∧ lv.length = max ∧ (∀ x ∈ lv, 0 ≤ x) ∧
      lv.sum = len ∧ kraft lv ≤ 2 ^ max ∧
      (kraft (n.drop 1) = 2 ^ (n.length - 1) → kraft lv = 2 ^ max) := by
  have hA : (n.take (max + 1)).drop 1 = (n.drop 1).take max := by
    rw [List.drop_take]; rfl
  have hB : n.drop (max + 1) = (n.drop 1).drop max := by
    rw [List.drop_drop, Nat.add_comm]
  have hAB : (n.take (max + 1)).drop 1 ++ n.drop (max + 1) = n.drop 1 := by
    rw [hA, hB, List.take_append_drop]
  have hAl : ((n.take (max + 1)).drop 1).length = max := by
    rw [hA, List.length_take, List.length_drop]; omega
  have hABl : ((n.take (max + 1)).drop 1 ++ n.drop (max + 1)).length = n.length - 1 := by
    rw [hAB, List.length_drop]
  obtain ⟨s1, s2, s3, s4, s5, _⟩ := enforceLv_spec max ((n.take (max + 1)).drop 1) (n.drop (max + 1)) hAl hmax
    (fun x hx => hnn x (List.mem_of_mem_take (List.mem_of_mem_drop hx)))
    (fun x hx => hnn x (List.mem_of_mem_drop hx))
    (by rw [← List.sum_append, hAB, hcnt]; exact hfit)
    (by rw [hABl, hAB]; exact hk)
  refine ⟨enforceLv max ((n.take (max + 1)).drop 1) (n.drop (max + 1)), ?_, s1, s2, ?_, s4, ?_⟩
  · unfold enforce
    rw [if_neg (by omega)]
  · rw [s3, ← List.sum_append, hAB, hcnt]
  · intro hfull
    exact s5 (by rw [hABl, hAB]; exact hfull)

open Model.HuffLimit Spec in
/-- FROM THE BUILDER'S HISTOGRAM TO THE DECODER'S VERDICT: take the histogram `n` of a complete prefix
    code (what a Huffman tree over `len ≥ 2` symbols gives), limit it with `enforce_max_code_size` to
    `max ≤ 15` bits, and let `lens` be ANY assignment of code lengths to symbols (all ≤ 15) that has
    the limited histogram — `lens` then passes the validity rule the reference decoder applies to every
    transmitted code (`Spec.codeValid`: Kraft bookkeeping of RFC 1951 / `inftrees.c`, complete code), for
    every alphabet. (`length_limiting_restores_a_complete_code` + `Lemmas/HuffValid`: the decoder's
    bookkeeping over a complete histogram never reports over-subscription and ends with nothing left.)
    That `optimize_table` hands the lengths out with exactly this histogram is checked per run (the
    reference decoder accepts every emitted code-length set). -/
theorem code_lengths_after_limiting_are_a_valid_code (k : CodeKind) (n : List Int) (len max : Nat) (h2 : 2 ≤ len)
    (hmax1 : 1 ≤ max) (hmax : max ≤ 15) (hlen : max + 1 ≤ n.length) (hnn : ∀ x ∈ n, 0 ≤ x)
    (hcnt : (n.drop 1).sum = len) (hfit : (len : Int) ≤ 2 ^ max) (hfull : kraft (n.drop 1) = 2 ^ (n.length - 1))
    (lens : Array Nat) (h15 : lens.all (· ≤ 15) = true)
    (hc : ∀ i, i < 15 → (countLens lens).getD (1 + i) 0 = ((((enforce n len max).drop 1).take max).getD i 0).toNat) :
    codeValid k lens = true := by
  obtain ⟨lv, he, hl, hnn', _, _, hcomplete⟩ :=
    length_limiting_restores_a_complete_code n len max h2 hmax1 hlen hnn hcnt hfit (by rw [hfull]; exact Int.le_refl _)
  have h1 : (n.take 1).length = 1 := by rw [List.length_take]; omega
  have hlv : ((enforce n len max).drop 1).take max = lv := by
    rw [he, List.append_assoc, List.drop_append, h1, Nat.sub_self, List.drop_zero,
      List.drop_eq_nil_of_le (by omega), List.nil_append, List.take_append, hl, Nat.sub_self, List.take_zero,
      List.append_nil, List.take_of_length_le (by omega)]
  rw [hlv] at hc
  exact complete_histogram_is_valid_upto k lens lv max hmax h15 hl hnn' hc (hcomplete hfull)

open Model.HuffLimit in
/-- NO COUNT LEAVES ITS RANGE WHILE THE LOOP RUNS: between the rounds of `enforce_max_code_size` every
    entry of the histogram (deep-first list `l` of the lengths `max … 1` after the folding step,
    `M = 2^max`) lies between 0 and the number of codes — so the `i32` arithmetic of the source neither
    goes negative nor wraps, and the model's unbounded integers say what the code computes. -/
theorem length_limiting_counts_stay_in_range (M : Int) (l : List Int) (h : Inv M l) (k : Nat) (hk : M + k ≤ W l) :
    ∀ x ∈ iter k l, 0 ≤ x ∧ x ≤ l.sum :=
  rounds_stay_in_range M l h k hk

open Model.HuffLimit in
/-- … and a histogram that is already within the limit and not over-full is not touched. -/
theorem length_limiting_leaves_a_fitting_code_alone (max : Nat) (A : List Int) (hA : A.length = max) (h1 : 1 ≤ max)
    (hnA : ∀ x ∈ A, 0 ≤ x) (hfit : A.sum ≤ 2 ^ max) (hk : kraft A < 2 ^ max) :
    enforceLv max A [] = A :=
  (enforceLv_spec max A [] hA h1 hnA (fun _ h => by simp at h) (by simpa using hfit)
    (by rw [List.append_nil, hA]; omega)).2.2.2.2.2 rfl hk

-- 5 codes: one of length 1, one of length 2, one of length 3, two of length 4 (complete); limit 3:
-- the two 4-bit codes are folded into length 3 (weight 9 of 8) and one round repairs it
open Model.HuffLimit in
example : enforce [0, 1, 1, 1, 2] 5 3 = [0, 1, 0, 4, 2] ∧ kraft [1, 0, 4] = 2 ^ 3 ∧ kraft [1, 1, 1, 2] = 2 ^ 4 := by decide

-- a code of depth 20 (lengths 1, 2, …, 19, 20, 20: 21 symbols, complete) limited to 15 bits: the seven
-- codes longer than 14 bits are folded into length 15 (weight 2^15 + 5), five rounds repair it
open Model.HuffLimit in
example : enforce ([0] ++ List.replicate 19 1 ++ [2] ++ List.replicate 12 0) 21 15 =
      [0, 1, 1, 1, 1, 1, 1, 1, 1, 1, 1, 1, 0, 2, 0, 8] ++ [1, 1, 1, 1, 2] ++ List.replicate 12 0 ∧
    kraft (List.replicate 19 1 ++ [2] ++ List.replicate 12 0) = 2 ^ 32 ∧
    kraft [1, 1, 1, 1, 1, 1, 1, 1, 1, 1, 1, 0, 2, 0, 8] = 2 ^ 15 := by decide

-- the packer on a list with a long zero run, a run of equal sizes and a short tail
open Model.Core Model.Rle in
example : (applyAll #[] (rlePack ([8] ++ List.replicate 140 0 ++ List.replicate 7 5 ++ [0, 0, 3]))).toList =
    [8] ++ List.replicate 140 0 ++ List.replicate 7 5 ++ [0, 0, 3] := by decide +kernel

end C10
