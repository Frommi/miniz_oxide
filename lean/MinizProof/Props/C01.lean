/-
C01 — one-shot compress/decompress is lossless for every input and level.
Theorems proved here (see DESIGN.md §7 C01 for the decomposition and what remains by contract).
Subject of the Gen theorems: the functions REGENERATED from /repo's source in Gen/All.lean.
-/
import MinizProof.Gen.All
import MinizProof.Lemmas.Finite
import MinizProof.Props.C02
import MinizProof.Lemmas.VecLoops
open Fin'

namespace C01
open Gen.DeflCore

/-- `compress_to_vec(_zlib)` passes `level.into()` (u8 → i32, so 0..255), `window_bits ∈ {0,1}`
    and strategy 0 to `create_comp_flags_from_zip_params`. -/
def flagsFor (level : Nat) (zlib : Nat) : Int :=
  create_comp_flags_from_zip_params (Int.ofNat level) (Int.ofNat zlib) 0

/-- "values above 10 behave as 10": for every u8 level above 10 the compressor is created with
    exactly the flags of level 10, in both formats, so it is the same compressor. -/
theorem level_clamp : ∀ level zlib, level < 256 → zlib < 2 → 10 < level →
    flagsFor level zlib = flagsFor 10 zlib := by
  have h : allBelow 256 (fun l => allBelow 2 (fun z =>
      if 10 < l then flagsFor l z == flagsFor 10 z else true)) = true := by decide +kernel
  intro level zlib hl hz h10
  have := allBelow_spec (allBelow_spec h level hl) zlib hz
  simpa [h10] using this

/-- Every u8 level yields flags whose probe count is at most 1500 (the largest entry of the probe
    table), whose format bit follows the requested format (raw: no zlib header; zlib: header) and
    which force stored blocks exactly at level 0. -/
theorem flags_wellformed : ∀ level zlib, level < 256 → zlib < 2 →
    (G.band (.u 32) (flagsFor level zlib) TDEFL_WRITE_ZLIB_HEADER != 0) = (zlib == 1) ∧
    (G.band (.u 32) (flagsFor level zlib) MAX_PROBES_MASK ≤ 1500) ∧
    ((G.band (.u 32) (flagsFor level zlib) TDEFL_FORCE_ALL_RAW_BLOCKS != 0) = (level == 0)) := by
  have h : allBelow 256 (fun l => allBelow 2 (fun z =>
      ((G.band (.u 32) (flagsFor l z) TDEFL_WRITE_ZLIB_HEADER != 0) == (z == 1)) &&
      decide (G.band (.u 32) (flagsFor l z) MAX_PROBES_MASK ≤ 1500) &&
      ((G.band (.u 32) (flagsFor l z) TDEFL_FORCE_ALL_RAW_BLOCKS != 0) == (l == 0)))) = true := by
    decide +kernel
  intro level zlib hl hz
  have := allBelow_spec (allBelow_spec h level hl) zlib hz
  simp only [Bool.and_eq_true, beq_iff_eq, decide_eq_true_eq] at this
  exact ⟨this.1.1, this.1.2, this.2⟩

/-- The grow-and-retry loop of `compress_to_vec` re-enters `compress` after a call that stopped in
    the middle of the input; what makes that lossless is that every engine exit stores all cached
    registers back (program-text theorem proved in Props/C02, re-checked here). -/
theorem engines_resume_exactly :
    Gen.Facts.engineExits.all (fun e => e.2.2.2.1.all (fun f => e.2.2.2.2.contains f)) = true :=
  C02.engine_exits_store_all_cached_registers.1

/-- The LZ code buffer cannot overflow between two of the engines' fullness tests (theorem over
    constants regenerated from the source, proved in Props/C02, re-checked here: an overflow corrupts
    the block for inputs that fill the buffer at one particular alignment). -/
theorem lz_code_buffer_never_overflows :
    (∀ N ∈ Gen.DeflCore.LZ_TIGHT_SLACK_NORMAL.toList, ∀ pos : Int, 0 ≤ pos → pos ≤ Gen.Buffer.LZ_CODE_BUF_SIZE - N →
        pos + (RECORD_LITERAL_CODES + RECORD_MATCH_CODES + 1) ≤ Gen.Buffer.LZ_CODE_BUF_SIZE) :=
  C02.lz_code_buffer_never_overflows.1

-- non-vacuity: level 200 really is a u8 level above 10 and maps to level 10's flags
example : flagsFor 200 1 = flagsFor 10 1 := level_clamp 200 1 (by decide) (by decide) (by decide)
example : flagsFor 10 1 = 0x1000 + 1500 := by decide +kernel

/-! ### The grow-and-retry loop of `compress_to_vec` (`Model.Vec.compressToVec`, VECD correspondence) -/
/-- For EVERY behaviour of the inner `compress` that keeps its contract (status Okay or Done — in the
    staging model every call past the usage guard ends in `flushOut`, which answers one of the two,
    `Model.DeflOut.flushOut_spec`, and a Finish-only schedule is never refused by the guard,
    `C02.legal_never_rejected` — and never more input reported consumed than is left), the loop of
    `compress_to_vec_inner` never reaches its
    `panic!("Bug! Unexpectedly failed to compress!")` arm, for every input length and however often the
    output vector has to double. -/
theorem compress_to_vec_never_panics (inLen : Nat) (script : List Model.Vec.Resp)
    (h : Model.Vec.Respects inLen script) : ∀ cs, Model.Vec.compressToVec inLen script ≠ .panic cs :=
  Model.Vec.compressToVec_never_panics inLen script h

example : Model.Vec.compressToVec 100 [⟨0, 100, 50⟩, ⟨1, 0, 7⟩] = .ok 57 [(100, 50, 0), (0, 100, 50)] := by decide
example : Model.Vec.Respects 100 [⟨0, 100, 50⟩, ⟨1, 0, 7⟩] := by simp [Model.Vec.Respects, Model.Vec.dOkay, Model.Vec.dDone]

end C01
