/-
C14 — streaming deflate obeys its status protocol and always makes progress.
Proved here over definitions REGENERATED from the source: how `deflate()`'s flush argument reaches
the compressor (None/Partial/Sync/Full/Finish unchanged, anything else None), the usage guard that
turns a non-Finish call after Finish into `BadParam` (then `MZError::Param`) and keeps a failed
compressor failed, and the status codes `deflate()` dispatches on. Over the hand model of
`deflate()` (`Model.Defl`, engine scripted): the protocol for every engine behaviour. On the real
code the protocol (counts, empty output refused without side effects, progress, Finish runs to
the end or a full buffer and terminates, stream-end exactness and behaviour afterwards, usage
errors) is checked per run: all call sequences of depth 2 (quick) / 3 (thorough) over the
48-letter alphabet of the property on 5 inputs x 3 levels, each completed by repeated Finish, then
random long schedules; finished streams are decoded by the Lean reference decoder.
-/
import MinizProof.Gen.All
import MinizProof.Lemmas.Finite
import MinizProof.Lemmas.DeflStream
open Fin'
namespace C14
open Gen.DeflCore Gen.Lib

theorem flush_passthrough : ∀ f ∈ MZFlush.all,
    TDEFLFlush_from_MZFlush f = (if f = MZFlush.Block then TDEFLFlush.None else f) := by
  have h : allIn MZFlush.all (fun f => TDEFLFlush_from_MZFlush f == (if f = MZFlush.Block then TDEFLFlush.None else f)) = true := by
    decide +kernel
  intro f hf
  simpa using allIn_spec h f hf

/-- After Finish, any other flush is rejected (`BadParam`), whatever the previous status;
    and once the status is not `Okay` (after `BadParam`, `PutBufFailed` or `Done`) every call is rejected. -/
theorem nonfinish_after_finish_rejected : ∀ st ∈ TDEFLStatus.all, ∀ cur ∈ TDEFLFlush.all,
    cur ≠ TDEFLFlush.Finish → guard_rejects st TDEFLFlush.Finish cur = true := by
  have h : allIn TDEFLStatus.all (fun st => allIn TDEFLFlush.all (fun cur =>
      if cur = TDEFLFlush.Finish then true else guard_rejects st TDEFLFlush.Finish cur)) = true := by decide +kernel
  intro st hst cur hc hne
  have := allIn_spec (allIn_spec h st hst) cur hc
  simpa [hne] using this

theorem failed_stays_failed : ∀ st ∈ TDEFLStatus.all, ∀ prev ∈ TDEFLFlush.all, ∀ cur ∈ TDEFLFlush.all,
    st ≠ TDEFLStatus.Okay → guard_rejects st prev cur = true := by
  have h : allIn TDEFLStatus.all (fun st => allIn TDEFLFlush.all (fun p => allIn TDEFLFlush.all (fun c =>
      if st = TDEFLStatus.Okay then true else guard_rejects st p c))) = true := by decide +kernel
  intro st hst prev hp cur hc hne
  have := allIn_spec (allIn_spec (allIn_spec h st hst) prev hp) cur hc
  simpa [hne] using this

theorem status_codes : TDEFLStatus.BadParam = -2 ∧ TDEFLStatus.PutBufFailed = -1 ∧ TDEFLStatus.Okay = 0 ∧
    TDEFLStatus.Done = 1 ∧ MZFlush.all = [0, 1, 2, 3, 4, 5] := by decide +kernel

/-! ### Protocol theorems about the model of `deflate()` (Model/DeflStream.lean), for EVERY engine
behaviour (any script of responses) and every buffer size — induction over the loop. The model is
tied to the code by replaying the recorded inner `compress` calls of every real `deflate()` call
of the run (leg K). -/
open Model.Defl

/-- The model's status and result codes are the ones REGENERATED from the source. -/
theorem codes_match_source :
    stBadParam = TDEFLStatus.BadParam ∧ stPutBufFailed = TDEFLStatus.PutBufFailed ∧ stOkay = TDEFLStatus.Okay ∧
    stDone = TDEFLStatus.Done ∧ (flNone : Int) = MZFlush.None ∧ (flFinish : Int) = MZFlush.Finish ∧
    rOk = MZStatus.Ok ∧ rStreamEnd = MZStatus.StreamEnd ∧ rBuf = MZError.Buf ∧ rStream = MZError.Stream ∧
    rParam = MZError.Param := by decide +kernel

/-- The three ways `deflate()` answers: an empty output buffer, a finished compressor, the loop. -/
theorem deflate_cases {prevDone : Bool} {inLen outLen flush : Nat} {script : List Resp} {r : Result} {cs}
    (h : deflate prevDone inLen outLen flush script = .ok r cs) :
    r = ⟨0, 0, rBuf⟩ ∨ (0 < outLen ∧ prevDone = true ∧ r = ⟨0, 0, if flush = flFinish then rStreamEnd else rBuf⟩) ∨
    (0 < outLen ∧ prevDone = false ∧ ∃ x ∈ script, r.consumed ≤ inLen ∧ r.written ≤ outLen ∧
      loopExit flush x.st (inLen - r.consumed) (outLen - r.written) r.consumed r.written = some r.status) := by
  unfold deflate at h
  by_cases ho : outLen = 0
  · rw [if_pos ho] at h; cases h; exact .inl rfl
  rw [if_neg ho] at h
  cases prevDone with
  | true =>
    by_cases hf : flush = flFinish
    · rw [if_pos rfl, if_pos hf] at h; cases h; exact .inr (.inl ⟨by omega, rfl, by rw [if_pos hf]⟩)
    · rw [if_pos rfl, if_neg hf] at h; cases h; exact .inr (.inl ⟨by omega, rfl, by rw [if_neg hf]⟩)
  | false =>
    obtain ⟨pre, x, rest, e, _, hc, _, hw, hk⟩ := loop_eq flush script inLen outLen 0 0 [] r cs h
    rw [Nat.zero_add] at hc hw
    rw [Nat.zero_add, Nat.zero_add] at hk
    exact .inr (.inr ⟨by omega, rfl, x, by rw [e]; exact List.mem_append_right _ List.mem_cons_self, hc, hw, hk⟩)

/-- Counts never exceed the offered buffers. -/
theorem counts_bounded (prevDone : Bool) (inLen outLen flush : Nat) (script : List Resp) (r : Result) (cs) :
    deflate prevDone inLen outLen flush script = .ok r cs → r.consumed ≤ inLen ∧ r.written ≤ outLen := by
  intro h
  rcases deflate_cases h with rfl | ⟨_, _, rfl⟩ | ⟨_, _, _, _, hc, hw, _⟩
  · exact ⟨Nat.zero_le _, Nat.zero_le _⟩
  · exact ⟨Nat.zero_le _, Nat.zero_le _⟩
  · exact ⟨hc, hw⟩

/-- An empty output buffer is refused with a buffer error and without calling the engine
    (hence without side effects on the compressor). -/
theorem empty_output_refused (prevDone : Bool) (inLen flush : Nat) (script : List Resp) :
    deflate prevDone inLen 0 flush script = .ok ⟨0, 0, rBuf⟩ [] :=
  if_pos rfl

/-- A call that answers `Ok` made progress or carried a flush request. -/
theorem ok_means_progress (prevDone : Bool) (inLen outLen flush : Nat) (script : List Resp) (r : Result) (cs) :
    deflate prevDone inLen outLen flush script = .ok r cs → r.status = rOk →
    r.consumed > 0 ∨ r.written > 0 ∨ flush ≠ flNone := by
  intro h hst
  rcases deflate_cases h with rfl | ⟨_, _, rfl⟩ | ⟨ho, _, _, _, _, _, hk⟩
  · exact absurd hst (by decide)
  · exact absurd hst (by dsimp only; split <;> decide)
  · obtain ⟨_, _, _, hok⟩ := loopExit_spec hk
    have := hok hst; omega

/-- With Finish the call keeps working until the stream ends or the output buffer is completely
    full: an `Ok` answer means every output byte was used. -/
theorem finish_fills_output (prevDone : Bool) (inLen outLen : Nat) (script : List Resp) (r : Result) (cs) :
    deflate prevDone inLen outLen flFinish script = .ok r cs → r.status = rOk → r.written = outLen := by
  intro h hst
  rcases deflate_cases h with rfl | ⟨_, _, rfl⟩ | ⟨_, _, _, _, _, hw, hk⟩
  · exact absurd hst (by decide)
  · exact absurd hst (by decide)
  · obtain ⟨_, _, _, hok⟩ := loopExit_spec hk
    have := hok hst; omega

/-- After the stream has ended: Finish keeps answering stream-end with nothing consumed or
    written, anything else is a buffer error; the engine is not called. -/
theorem after_end (inLen outLen flush : Nat) (script : List Resp) (ho : 0 < outLen) :
    deflate true inLen outLen flush script =
      if flush = flFinish then .ok ⟨0, 0, rStreamEnd⟩ [] else .ok ⟨0, 0, rBuf⟩ [] := by
  unfold deflate
  rw [if_neg (Nat.ne_of_gt ho), if_pos rfl]

/-- Stream end is reported only when the engine reported `Done` in this call (and the engine only
    does so under Finish — the guard theorems above and C02), a parameter error only when the
    engine rejected the call (`BadParam`: non-Finish after Finish, or a failed compressor). -/
theorem status_origin (inLen outLen flush : Nat) (script : List Resp) (r : Result) (cs) :
    deflate false inLen outLen flush script = .ok r cs →
    (r.status = rStreamEnd → ∃ x ∈ script, x.st = stDone) ∧
    (r.status = rParam → ∃ x ∈ script, x.st = stBadParam) := by
  intro h
  rcases deflate_cases h with rfl | ⟨_, e, _⟩ | ⟨_, _, x, hx, _, _, hk⟩
  · exact ⟨fun e => absurd e (by decide), fun e => absurd e (by decide)⟩
  · cases e
  · obtain ⟨hparam, _, hdone, _⟩ := loopExit_spec hk
    exact ⟨fun e => ⟨x, hx, hdone e⟩, fun e => ⟨x, hx, hparam e⟩⟩

/-- Repeating Finish terminates: one call answers within `inLen + outLen + 1` engine calls as
    long as every `Okay` response of the engine makes progress. -/
theorem call_terminates (inLen outLen flush : Nat) (script : List Resp)
    (hp : ∀ x ∈ script, (x.st = stOkay ∧ x.cin + x.cout > 0) ∨ x.st = stDone ∨ x.st = stBadParam ∨ x.st = stPutBufFailed)
    (hl : inLen + outLen + 1 ≤ script.length) : ∀ cs, deflate false inLen outLen flush script ≠ .stuck cs := by
  intro cs
  unfold deflate
  by_cases ho : outLen = 0
  · rw [if_pos ho]; exact Outcome.noConfusion
  · rw [if_neg ho, if_neg Bool.false_ne_true]
    exact loop_terminates flush script inLen outLen 0 0 [] hp hl cs

-- non-vacuity: a concrete engine script on which the hypotheses hold and the call ends the stream
example : deflate false 3 10 flFinish [⟨stOkay, 3, 0⟩, ⟨stDone, 0, 7⟩] = .ok ⟨3, 7, rStreamEnd⟩ [(3, 10), (0, 10)] := by
  decide
example : deflate false 3 2 flFinish [⟨stOkay, 3, 2⟩] = .ok ⟨3, 2, rOk⟩ [(3, 2)] := by decide

end C14
