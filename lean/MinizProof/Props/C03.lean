/-
C03 — every valid DEFLATE/zlib stream decodes to exactly its plaintext.
Proved here (stage 3 of DESIGN.md §7 C03), over tables and functions REGENERATED from the source:
the decoder's length/distance base and extra-bit tables, the code-length order, the minimum table
sizes and the repeat-code parameters are exactly the values RFC 1951 defines (the RFC side is
`Spec.lengthBaseExtra` / `Spec.distBaseExtra` / `Spec.clenOrder`, computed by formula), for every
valid symbol; the padding entries of the 32-entry tables are never indexed by a valid symbol.
Over the hand model of the decoding automaton (`Model.Core.decompress`): every raw or zlib stream
the reference decoder accepts is decoded by one call to exactly its plaintext with the exact
consumed count, into a flat buffer or a ring. The real automaton is tied to the model by the
correspondence leg and, on every run, every entry point's result is compared with the Lean
reference decoder on grammar-generated streams.
-/
import MinizProof.Gen.All
import MinizProof.Spec.Inflate
import MinizProof.Lemmas.Finite
import MinizProof.Lemmas.CoreRefine
import MinizProof.Lemmas.CoreZlib
import MinizProof.Lemmas.CoreRingCalls
open Fin'

namespace C03
open Gen.InflCore

/-- Length symbols 257..285: the decoder's (LENGTH_BASE, LENGTH_EXTRA) entry at the masked index
    the code uses, `(sym − 257) & 31`, is the RFC's (base, extra bits). -/
theorem length_tables_are_rfc : ∀ sym, 257 ≤ sym → sym ≤ 285 →
    let i := G.band (.u 64) (Int.ofNat (sym - 257)) BASE_EXTRA_MASK
    ((G.idx LENGTH_BASE i).toNat, (G.idx LENGTH_EXTRA i).toNat) = Spec.lengthBaseExtra sym := by
  have h : allBelow 29 (fun k =>
      let i := G.band (.u 64) (Int.ofNat k) BASE_EXTRA_MASK
      ((G.idx LENGTH_BASE i).toNat, (G.idx LENGTH_EXTRA i).toNat) == Spec.lengthBaseExtra (k + 257)) = true := by
    decide +kernel
  intro sym h1 h2
  have := allBelow_spec h (sym - 257) (by omega)
  have e : sym - 257 + 257 = sym := by omega
  simpa [e] using this

/-- Distance symbols 0..29: DIST_BASE and the computed number of extra bits are the RFC's. -/
theorem distance_tables_are_rfc : ∀ d, d ≤ 29 →
    ((G.idx DIST_BASE (Int.ofNat d)).toNat, (num_extra_bits_for_distance_code (Int.ofNat d)).toNat) = Spec.distBaseExtra d := by
  have h : allBelow 30 (fun d =>
      ((G.idx DIST_BASE (Int.ofNat d)).toNat, (num_extra_bits_for_distance_code (Int.ofNat d)).toNat) == Spec.distBaseExtra d) = true := by
    decide +kernel
  intro d hd
  simpa using allBelow_spec h d (by omega)

/-- Code-length code order, minimum table sizes, table dimensions. -/
theorem header_constants :
    Gen.Shared.HUFFMAN_LENGTH_ORDER.toList = Spec.clenOrder.map Int.ofNat ∧
    MIN_TABLE_SIZES = #[257, 1, 4] ∧
    LENGTH_BASE.size = 32 ∧ LENGTH_EXTRA.size = 32 ∧ DIST_BASE.size = 30 ∧
    MAX_HUFF_SYMBOLS_0 = 288 ∧ MAX_HUFF_SYMBOLS_1 = 32 ∧ MAX_HUFF_SYMBOLS_2 = 19 ∧
    FAST_LOOKUP_BITS = 10 ∧ FAST_LOOKUP_SIZE = 1024 ∧ TINFL_LZ_DICT_SIZE = 32768 := by
  decide +kernel

/-- The three padding entries of the length tables hold 512 / 0 extra bits and are reached only by
    the (already rejected) symbols 286, 287: no valid symbol maps to them. -/
theorem length_padding_unreachable : ∀ sym, 257 ≤ sym → sym ≤ 285 →
    (G.band (.u 64) (Int.ofNat (sym - 257)) BASE_EXTRA_MASK).toNat ≤ 28 := by
  have h : allBelow 29 (fun k => decide ((G.band (.u 64) (Int.ofNat k) BASE_EXTRA_MASK).toNat ≤ 28)) = true := by
    decide +kernel
  intro sym h1 h2
  simpa using allBelow_spec h (sym - 257) (by omega)

/-! ### Refinement: the decoder model against the RFC reference decoder

`Model.Core.decompress` is the hand model of `decompress_with_limit` (tied to the code by the ICALL
correspondence on every real call of every run); `Spec.inflateSpec` is the reference decoder written
from RFC 1951. The theorem below quantifies over EVERY input byte string, every output buffer, start
position, budget, history `pre` already in the buffer and flags word with a flat buffer: it is proved
by simulation — bit-buffer representation invariant (`Lemmas/CoreBits`), one lemma per automaton
state, induction over the token loop (`Lemmas/CoreTokens`), the code-length loop and the dynamic
header (`Lemmas/CoreDynamic`), stored blocks at any bit alignment (`Lemmas/CoreBlocks`), induction
over the block loop and a fuel argument resting on the termination measure (`Lemmas/CoreRefine`).
It covers everything the property lists: 11–15-bit codes, degenerate one-symbol codes, empty and
stored blocks at any alignment, code-length runs crossing the literal/distance boundary, length-258
and distance-32768 matches, overlapping copies — because it covers every stream the RFC decoder accepts. -/
open Model.Core in
/-- Every raw DEFLATE stream the RFC reference decoder accepts is decoded by ONE call of the model
    (flat output buffer with room for the plaintext, decoder at `Start`) to exactly the specified
    bytes, reported as `Done`, with exactly ⌈bits used / 8⌉ input bytes consumed — whatever follows
    the stream in the input. Bytes before `outPos` are the history matches may reach into. -/
theorem valid_raw_stream_decodes_one_shot (r : Regs) (inp out : Array UInt8) (outPos budget flags maxDist : Nat)
    (res : Spec.Inflated) (hstart : r.state = sStart)
    (hshape : r.rawHeader.size = 4 ∧ r.tableSizes.size = 3 ∧ r.lenCodes.size = 512)
    (hflat : hasFlag flags fNonWrapping = true) (hz : hasFlag flags fParseZlib = false)
    (hstop : hasFlag flags fStopOnBlockBoundary = false) (hpos : outPos ≤ out.size)
    (hspec : Spec.inflateSpec (out.extract 0 outPos) maxDist inp 0 = .accept res)
    (hroom : outPos + res.out.size ≤ min (outPos + budget) out.size) :
    (decompress r inp out outPos budget flags).status = stDone ∧
    (decompress r inp out outPos budget flags).written = res.out.size ∧
    (decompress r inp out outPos budget flags).consumed = (res.bitsUsed + 7) / 8 ∧
    (∀ i, i < res.out.size → (decompress r inp out outPos budget flags).out[outPos + i]? = res.out[i]?) :=
  refine_raw_flat r inp out outPos budget flags maxDist res hstart hshape hflat hz hstop hpos hspec hroom

open Model.Core in
/-- The same for the zlib format (RFC 1950 header, DEFLATE body, big-endian Adler-32 trailer): every
    stream `Spec.zlibSpec` accepts is decoded by one model call to exactly its plaintext, `Done`,
    with exactly header + body + trailer bytes consumed. -/
theorem valid_zlib_stream_decodes_one_shot (r : Regs) (inp out : Array UInt8) (outPos budget flags maxDist : Nat)
    (zr : Spec.ZInflated) (hstart : r.state = sStart)
    (hshape : r.rawHeader.size = 4 ∧ r.tableSizes.size = 3 ∧ r.lenCodes.size = 512)
    (hflat : hasFlag flags fNonWrapping = true) (hz : hasFlag flags fParseZlib = true)
    (hstop : hasFlag flags fStopOnBlockBoundary = false) (hpos : outPos ≤ out.size)
    (hspec : Spec.zlibSpec (out.extract 0 outPos) maxDist inp true = .accept zr)
    (hroom : outPos + zr.inner.out.size ≤ min (outPos + budget) out.size) :
    (decompress r inp out outPos budget flags).status = stDone ∧
    (decompress r inp out outPos budget flags).written = zr.inner.out.size ∧
    (decompress r inp out outPos budget flags).consumed = zr.bytesUsed ∧
    (∀ i, i < zr.inner.out.size → (decompress r inp out outPos budget flags).out[outPos + i]? = zr.inner.out[i]?) := by
  obtain ⟨cmf, flg, a, b, c, d, h0, h1, hv, hi, ha, hb, hc, hd, hadl, hused⟩ := zlibSpec_inv hspec
  have h := refine_zlib_flat r inp out outPos budget flags maxDist zr.inner cmf flg a b c d hstart hshape hflat hz hstop
    hpos h0 h1 hv hi ha hb hc hd hroom
  refine ⟨?_, h.2.1, by rw [h.2.2.1, hused], h.2.2.2⟩
  rw [h.1, if_neg]
  intro hh
  exact hh.2 (hadl rfl)

open Model.Core in
/-- RING BUFFER. Every raw DEFLATE stream the RFC reference decoder accepts whose plaintext fits the
    granted part of a ring buffer of `W ≥ 32768` bytes is decoded by one call of the model INTO THE RING
    to exactly the specified bytes, `Done`, exact count — via the ring/flat theorem (`Lemmas/CoreRing`)
    and the flat refinement above. (Streams longer than the ring: the ring is handed back to its start
    between calls; `C07.ring_call_equals_flat_call` + `C07.ring_hand_back` + the call-composition
    theorem cover every such schedule call by call.) -/
theorem valid_raw_stream_decodes_in_a_ring (inp oR : Array UInt8) (budget flagsR flagsF maxDist W : Nat)
    (res : Spec.Inflated) (hfl : FlagsRF flagsR flagsF) (hz : hasFlag flagsR fParseZlib = false)
    (hstop : hasFlag flagsR fStopOnBlockBoundary = false)
    (hW : oR.size = W) (hbig : 32768 ≤ W) (hgR : badGeometry flagsR oR.size 0 = false)
    (hspec : Spec.inflateSpec #[] maxDist inp 0 = .accept res)
    (hroom : res.out.size ≤ min budget W) :
    (decompress {} inp oR 0 budget flagsR).status = stDone ∧
    (decompress {} inp oR 0 budget flagsR).written = res.out.size ∧
    (decompress {} inp oR 0 budget flagsR).consumed = (res.bitsUsed + 7) / 8 ∧
    (∀ i, i < res.out.size → (decompress {} inp oR 0 budget flagsR).out[i]? = res.out[i]?) := by
  have hflat := valid_raw_stream_decodes_one_shot {} inp (Array.replicate W 0) 0 (min budget (W - 0)) flagsF maxDist res rfl
    Model.Core.fresh_shape hfl.flat (by rw [hfl.zlib]; exact hz) (by rw [hfl.stop]; exact hstop) (Nat.zero_le _)
    (by simpa using hspec) (by simp; omega)
  obtain ⟨f1, f2, f3, f4⟩ := hflat
  have hring := decompress_ring_flat {} inp oR (Array.replicate W 0) 0 budget flagsR flagsF W 0 Bnd_fresh hfl hW hbig hgR
    (by simp) ⟨hW, fun i hi => absurd hi (Nat.not_lt_zero _), fun i _ hiW hb => by omega⟩
    (by rw [Nat.zero_add, f1]; decide)
  rw [Nat.zero_add] at hring
  obtain ⟨r1, r2, r3, _, r5⟩ := hring
  refine ⟨r1.trans f1, r3.trans f2, r2.trans f3, fun i hi => ?_⟩
  have := r5.2.1 i (by rw [Nat.zero_add, r3, f2]; exact hi)
  rw [this, Nat.zero_add]
  have := f4 i hi
  rw [Nat.zero_add] at this
  exact this

/-- The hypotheses are satisfiable: a fresh decoder is at `Start` with registers of the right shape,
    and the reference decoder accepts concrete stored and fixed-Huffman streams (with a trailing byte). -/
example : ({} : Model.Core.Regs).state = Model.Core.sStart ∧ ({} : Model.Core.Regs).rawHeader.size = 4 ∧
    ({} : Model.Core.Regs).tableSizes.size = 3 ∧ ({} : Model.Core.Regs).lenCodes.size = 512 :=
  ⟨rfl, Model.Core.fresh_shape⟩
example : (match Spec.inflateSpec #[] 32768 #[0x01, 0x01, 0x00, 0xfe, 0xff, 0x41, 0x99] 0 with
  | .accept r => r.out == #[0x41] && r.bitsUsed == 48 | _ => false) = true := by decide +kernel
example : (match Spec.inflateSpec #[] 32768 #[0x73, 0x04, 0x00] 0 with
  | .accept r => r.out == #[0x41] && r.bitsUsed == 18 | _ => false) = true := by
  -- evaluated with the fixed codes as literals
  rw [Spec.inflateSpec, show Spec.fuelFor #[0x73, 0x04, 0x00] = 39 + 1 from rfl, Spec.inflateBlocks_succ, Spec.inflateBlock,
    Spec.fixedLitCode_eq, Spec.fixedDistCode_eq]
  decide +kernel

example : Spec.lengthBaseExtra 285 = (258, 0) := by decide
example : Spec.distBaseExtra 29 = (24577, 13) := by decide

end C03
