/-
C15 — the advertised compression bound really bounds one-shot output.
Over `mz_deflateBound` REGENERATED from the source: (1) the u64 arithmetic of the bound does not
wrap for any n < 2^56 and equals the exact formula; (2) the bound covers the two worst cases of
the block-cost abstraction of DESIGN.md §7 C15 — every byte as a 9-bit static literal plus
per-block overhead, and stored blocks of at most 31 744 payload bytes with 5 bytes of framing —
together with the zlib header and trailer. That the real engines stay within this block-cost
abstraction is NOT proved here (it needs a model of the match finder); it is checked on every run
through `mz_deflate(MZ_FINISH)` into a bound-sized buffer (oracle leg).
-/
import MinizProof.Gen.All
import MinizProof.Lemmas.GenArith
namespace C15
open Gen.CApi

theorem tdiv_nonneg_eq {a b : Int} (ha : 0 ≤ a) : Int.tdiv a b = a / b :=
  Int.tdiv_eq_ediv_of_nonneg ha

/-- No u64 wrap-around in the bound's arithmetic below 2^56 bytes: it is the exact formula. -/
theorem deflateBound_eq (s : Int) (n : Nat) (hn : n < 2 ^ 56) :
    mz_deflateBound s n = max (128 + (n:Int) * 113 / 100) (128 + (n:Int) + ((n:Int) / 31744 + 1) * 5) := by
  -- bottom-up rewriting of every wrapped u64 operation into plain arithmetic, side conditions by
  -- `omega` (so the proof does not depend on how the source spells the two terms: locals, `31 * 1024`
  -- or `31744`, order of the operands of `max`)
  unfold mz_deflateBound
  have h2 : G.mul (.u 64) (31:Int) 1024 = 31744 := by decide +kernel
  simp (disch := omega) only [Id.run, pure, h2, G.div, tdiv_nonneg_eq, G.add_u64_of_lt, G.mul_u64_of_lt] <;>
    first | rfl | (rw [Int.max_comm]) | omega

/-- Worst case of Huffman-coded output: every input byte costs 9 bits (static code, bytes ≥ 144),
    each block adds at most 2 bytes (3-bit header, 7-bit end-of-block, padding) and holds at
    least 4096 input bytes except the last, plus 2 header and 4 trailer bytes. -/
theorem covers_static_literals (s : Int) (n : Nat) (hn : n < 2 ^ 56) :
    (n:Int) + (n + 7) / 8 + 2 * (n / 4096 + 1) + 6 ≤ mz_deflateBound s n := by
  rw [deflateBound_eq s n hn]
  refine Int.le_trans ?_ (Int.le_max_left _ _)
  omega

/-- Stored output: at most 31 744 payload bytes per block, 5 bytes of framing each, plus header
    and trailer. -/
theorem covers_stored (s : Int) (n : Nat) (hn : n < 2 ^ 56) :
    (n:Int) + 5 * (n / 31744 + 1) + 6 ≤ mz_deflateBound s n := by
  rw [deflateBound_eq s n hn]
  refine Int.le_trans ?_ (Int.le_max_right _ _)
  omega

/-- 133 = the constant 128 of the formula + the 5 framing bytes of the one stored block every input has. -/
theorem bound_ge (s : Int) (n : Nat) (hn : n < 2 ^ 56) : (n:Int) + 133 ≤ mz_deflateBound s n := by
  rw [deflateBound_eq s n hn]
  refine Int.le_trans ?_ (Int.le_max_right _ _)
  omega

example : mz_deflateBound 0 32769 = 37156 := by decide +kernel
example : (32769:Int) + (32769 + 7) / 8 + 2 * (32769 / 4096 + 1) + 6 = 36890 := by decide

/-- The bound is monotone in the input length: a buffer sized for `n` bytes is large enough for
    every shorter input (what a caller relies on when it sizes one buffer for many messages). -/
theorem bound_mono (s : Int) (m n : Nat) (h : m ≤ n) (hn : n < 2 ^ 56) :
    mz_deflateBound s m ≤ mz_deflateBound s n := by
  rw [deflateBound_eq s n hn, deflateBound_eq s m (by omega)]
  refine Int.max_le.mpr ⟨Int.le_trans ?_ (Int.le_max_left _ _), Int.le_trans ?_ (Int.le_max_right _ _)⟩ <;> omega

/-- The stream argument plays no part in the bound. -/
theorem bound_ignores_stream (s t : Int) (n : Nat) (hn : n < 2 ^ 56) :
    mz_deflateBound s n = mz_deflateBound t n := by
  rw [deflateBound_eq s n hn, deflateBound_eq t n hn]

end C15
