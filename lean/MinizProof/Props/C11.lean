/-
C11 — the window size declared in the zlib header bounds every match distance.
Over definitions REGENERATED from the source: the header's CINFO for window_bits w is
max(w,8) − 8, and the distance bound the matchers enforce (`ParamsOxide::max_match_dist`, used by
`compress_fast` and at the `find_match` call) equals the declared window 2^(CINFO+8), for every
window_bits value `with_params` can store (it clamps to 15). That the matchers really pass this
bound is checked by the oracle leg (token trace of every emitted stream + ring decoder of exactly
the declared size).
-/
import MinizProof.Gen.All
import MinizProof.Lemmas.Finite
open Fin'

namespace C11
open Gen.DeflCore Gen.Zlib

def cinfo (level wb : Nat) : Int := G.shr (.u 8) (G.idx (header_from_level level wb) 0) 4

/-- Declared window field: CINFO = max(wb, 8) − 8 ≤ 7, for all four header levels and wb ≤ 15. -/
theorem declared_window : ∀ level wb, level < 4 → wb < 16 →
    cinfo level wb = Int.ofNat (max wb 8 - 8) := by
  have h : allBelow 4 (fun l => allBelow 16 (fun w => cinfo l w == Int.ofNat (max w 8 - 8))) = true := by
    decide +kernel
  intro level wb hl hw
  simpa using allBelow_spec (allBelow_spec h level hl) wb hw

/-- The enforced distance bound is exactly the declared window: 2^max(wb,8), for every u8 value
    (values above 15 are clamped by the function itself). -/
theorem bound_is_declared : ∀ wb, wb < 256 →
    ParamsOxide_max_match_dist (Int.ofNat wb) 0 = Int.ofNat (2 ^ (min (max wb 8) 15)) := by
  have h : allBelow 256 (fun w => ParamsOxide_max_match_dist (Int.ofNat w) 0 == Int.ofNat (2 ^ (min (max w 8) 15))) = true := by
    decide +kernel
  intro wb hw
  simpa using allBelow_spec h wb hw

/-- Hence for every window_bits a compressor can hold the bound EQUALS the window the header
    declares, 2^(CINFO + 8): no match reaches further than a decoder sized from the header keeps. -/
theorem bound_le_declared : ∀ level wb, level < 4 → wb < 16 →
    ParamsOxide_max_match_dist (Int.ofNat wb) 0 = G.two ^ ((cinfo level wb).toNat + 8) := by
  have h : allBelow 4 (fun l => allBelow 16 (fun w =>
      ParamsOxide_max_match_dist (Int.ofNat w) 0 == G.two ^ ((cinfo l w).toNat + 8))) = true := by
    decide +kernel
  intro level wb hl hw
  simpa using allBelow_spec (allBelow_spec h level hl) wb hw

/-- Small windows (< 12) with any non-zero level and any strategy other than Huffman-only are
    routed to the run-length matcher (distance 1), never to `compress_fast`. -/
theorem small_window_routes_rle : ∀ wb level strategy, wb < 12 → level < 11 → strategy < 5 →
    level ≠ 0 → strategy ≠ 2 →
    let ls := limit_level_by_window_bits (Int.ofNat wb) (Int.ofNat level) (Int.ofNat strategy)
    let flags := create_comp_flags_from_zip_params ls.1 15 ls.2
    route flags = 2 ∧ G.band (.u 32) flags TDEFL_RLE_MATCHES ≠ 0 := by
  have h : allBelow 12 (fun w => allBelow 11 (fun l => allBelow 5 (fun s =>
      if l ≠ 0 ∧ s ≠ 2 then
        let ls := limit_level_by_window_bits (Int.ofNat w) (Int.ofNat l) (Int.ofNat s)
        let flags := create_comp_flags_from_zip_params ls.1 15 ls.2
        (route flags == 2) && (G.band (.u 32) flags TDEFL_RLE_MATCHES != 0)
      else true))) = true := by decide +kernel
  intro wb level strategy hw hl hs hl0 hs2
  have := allBelow_spec (allBelow_spec (allBelow_spec h wb hw) level hl) strategy hs
  simp only [hl0, hs2, ne_eq, not_false_eq_true, and_self, ↓reduceIte, Bool.and_eq_true, beq_iff_eq, bne_iff_ne] at this
  exact this

example : ParamsOxide_max_match_dist 12 0 = 4096 := by decide +kernel
example : cinfo 0 12 = 4 := by decide +kernel

/-- Whatever window_bits byte is stored, the enforced distance bound lies between 256 (the smallest
    window a zlib header can declare) and 32 768 (the DEFLATE maximum). -/
theorem bound_range : ∀ wb, wb < 256 →
    256 ≤ ParamsOxide_max_match_dist (Int.ofNat wb) 0 ∧ ParamsOxide_max_match_dist (Int.ofNat wb) 0 ≤ 32768 := by
  intro wb hw
  rw [bound_is_declared wb hw]
  have h1 : 2 ^ 8 ≤ 2 ^ (min (max wb 8) 15) := Nat.pow_le_pow_right (by decide) (by omega)
  have h2 : 2 ^ (min (max wb 8) 15) ≤ 2 ^ 15 := Nat.pow_le_pow_right (by decide) (by omega)
  constructor
  · exact Int.ofNat_le.mpr h1
  · exact Int.ofNat_le.mpr h2

/-- The bound never shrinks when window_bits grows. -/
theorem bound_monotone : ∀ a b, a ≤ b → b < 256 →
    ParamsOxide_max_match_dist (Int.ofNat a) 0 ≤ ParamsOxide_max_match_dist (Int.ofNat b) 0 := by
  intro a b hab hb
  rw [bound_is_declared a (by omega), bound_is_declared b hb]
  exact Int.ofNat_le.mpr (Nat.pow_le_pow_right (by decide) (by omega))

end C11
