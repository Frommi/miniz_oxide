/-
C08 — the decoder writes only inside the granted window; status codes are truthful.
Proved here, over `OutputBuffer::from_slice_pos_and_max` REGENERATED from the source: for every
slice length, start position inside the slice and budget, the end of the write window is
min(out_pos + budget, len) — the window lies inside the slice and spans at most the budget — and
`bytes_left()` (end − position) cannot underflow at construction. Over the decoder model
(`Model.Core.decompress`) and the model of the size-limited vector functions (`Model.Vec`): every
write goes through this window, `HasMoreOutput`/`NeedsMoreInput` are truthful, a valid stream's
status is decided by the window alone, the limit is respected. For the real code the same is
checked on every run with poisoned buffers around the window for every call (harness oracles in
release and debug profiles).
-/
import MinizProof.Props.C05
import MinizProof.Lemmas.CoreCall
import MinizProof.Lemmas.VecLoops
import MinizProof.Lemmas.CoreFull
import MinizProof.Lemmas.SpecFuel
import MinizProof.Props.C07
namespace C08

/-- The window is inside the slice, starts at `pos`, and is at most `budget` bytes long. -/
theorem window_bounds (len pos budget : Nat) (hl : len < 2 ^ 64) (hp : pos ≤ len) (hb : budget < 2 ^ 64) :
    (pos : Int) ≤ Gen.OutBuf.window_end len pos budget ∧
    Gen.OutBuf.window_end len pos budget ≤ len ∧
    Gen.OutBuf.window_end len pos budget - pos ≤ budget := by
  rw [C05.window_within_slice len pos budget hl]
  omega

/-- With the unlimited budget `decompress` passes (`usize::MAX`), the window is the rest of the slice. -/
theorem window_unlimited (len pos : Nat) (hl : len < 2 ^ 64) (hp : pos ≤ len) :
    Gen.OutBuf.window_end len pos ((2 ^ 64 - 1 : Nat) : Int) = len := by
  rw [C05.window_within_slice len pos (2 ^ 64 - 1) hl]
  omega

theorem usize_max : G.tyMax (.u 64) = ((2 ^ 64 - 1 : Nat) : Int) := G.tyMax_u64

/-! ### The decoder model (`Model.Core.decompress`, tied to the code by the ICALL correspondence)

The theorems below hold for EVERY register state (reachable or not), every input, every buffer
geometry and every flags word: they are consequences of a per-transition invariant
(`Lemmas/CoreFrame`: every one of the 24 working states keeps the cursors inside the offered input
and the granted window and writes only between the old and the new output position), lifted to
whole runs by induction on the number of transitions. -/
open Model.Core

/-- TIE to the regenerated source: the end of the model's write window is the `max` computed by
    `OutputBuffer::from_slice_pos_and_max`. -/
theorem model_window_is_source (len pos budget : Nat) (hl : len < 2 ^ 64) (hp : pos ≤ len) (hb : budget < 2 ^ 64) :
    ((min (pos + budget) len : Nat) : Int) = Gen.OutBuf.window_end len pos budget :=
  (C05.window_within_slice len pos budget hl).symm

/-- A call writes only inside `[outPos, outPos + written)`, which lies inside the budget and inside
    the slice; every other byte of the buffer is unchanged and the buffer keeps its length. -/
theorem writes_only_inside_window (r : Regs) (inp out : Array UInt8) (outPos budget flags : Nat) :
    let res := decompress r inp out outPos budget flags
    res.out.size = out.size ∧ res.written ≤ budget ∧ res.written ≤ out.size - outPos ∧
    ∀ i, (i < outPos ∨ outPos + res.written ≤ i) → res.out[i]? = out[i]? := by
  have h := decompress_facts r inp out outPos budget flags
  exact ⟨h.size, h.wBudget, h.room, h.frame⟩

/-- "Has more output" is reported only when the granted region is completely full. -/
theorem has_more_output_means_full (r : Regs) (inp out : Array UInt8) (outPos budget flags : Nat) :
    let res := decompress r inp out outPos budget flags
    res.status = stHasMoreOutput → res.written = min budget (out.size - outPos) :=
  (decompress_facts r inp out outPos budget flags).hmo

/-- "Needs more input" (and "cannot make progress") only when all offered input was consumed. -/
theorem needs_more_input_means_all_consumed (r : Regs) (inp out : Array UInt8) (outPos budget flags : Nat) :
    let res := decompress r inp out outPos budget flags
    (res.status = stNeedsMoreInput ∨ res.status = stFailedCannotMakeProgress) → res.consumed = inp.size :=
  (decompress_facts r inp out outPos budget flags).nmi

/-- Hence a driver loop makes progress: with non-empty input and a non-empty grant, a call that
    asks for more input or more output has consumed or produced at least one byte. -/
theorem driver_loop_progress (r : Regs) (inp out : Array UInt8) (outPos budget flags : Nat)
    (hi : 0 < inp.size) (ho : 0 < min budget (out.size - outPos)) :
    let res := decompress r inp out outPos budget flags
    (res.status = stNeedsMoreInput ∨ res.status = stHasMoreOutput) → 0 < res.consumed + res.written := by
  intro res hs
  have h := decompress_facts r inp out outPos budget flags
  show 0 < (decompress r inp out outPos budget flags).consumed + (decompress r inp out outPos budget flags).written
  rcases hs with hs | hs
  · have := h.nmi (Or.inl hs); omega
  · have := h.hmo hs; omega

/-! ### A valid stream in every window: `Done` iff it fits, "has more output" iff it does not

With the refinement (C03: fits ⇒ `Done`) and the converse (C04: `Done` ⇒ accepted and fits) the
theorems below cover the remaining case: a stream the reference decoder accepts whose plaintext does
NOT fit the granted window is reported as "has more output" (`Lemmas/CoreFull`: the run is carried
over the accepted tokens and blocks for as long as they fit; the first literal, match or stored byte
run that does not fit fills the window and stops there). So the status a caller sees for a valid
stream is decided by the window alone, and a limited call never fails, never claims completion, and
hands out a prefix of the plaintext. -/
open Model.Core in
theorem status_decides {st : Int} {fit : Prop} (hd : fit → st = stDone) (hm : ¬ fit → st = stHasMoreOutput) :
    (st = stDone ↔ fit) ∧ (st = stHasMoreOutput ↔ ¬ fit) ∧ (st = stDone ∨ st = stHasMoreOutput) := by
  by_cases h : fit
  · have e := hd h
    exact ⟨⟨fun _ => h, fun _ => e⟩, ⟨fun h' => by rw [e] at h'; exact absurd h' (by decide), fun h' => absurd h h'⟩, .inl e⟩
  · have e := hm h
    exact ⟨⟨fun h' => by rw [e] at h'; exact absurd h' (by decide), fun h' => absurd h' h⟩, ⟨fun _ => h, fun _ => e⟩, .inr e⟩

open Model.Core in
/-- VALID BUT TOO BIG: "has more output", the window completely filled. -/
theorem valid_stream_too_big_is_has_more_output (r : Regs) (inp out : Array UInt8) (outPos budget flags maxDist : Nat)
    (res : Spec.Inflated) (hstart : r.state = sStart)
    (hshape : r.rawHeader.size = 4 ∧ r.tableSizes.size = 3 ∧ r.lenCodes.size = 512)
    (hflat : hasFlag flags fNonWrapping = true) (hz : hasFlag flags fParseZlib = false)
    (hstop : hasFlag flags fStopOnBlockBoundary = false) (hpos : outPos ≤ out.size)
    (hspec : Spec.inflateSpec (out.extract 0 outPos) maxDist inp 0 = .accept res)
    (hbig : min (outPos + budget) out.size < outPos + res.out.size) :
    (decompress r inp out outPos budget flags).status = stHasMoreOutput ∧
    (decompress r inp out outPos budget flags).written = min budget (out.size - outPos) := by
  have h := full_raw_flat r inp out outPos budget flags maxDist res hstart hshape hflat hz hstop hpos hspec hbig
  exact ⟨h, has_more_output_means_full r inp out outPos budget flags h⟩

open Model.Core in
/-- THE STATUS OF A VALID STREAM IS DECIDED BY THE WINDOW: `Done` exactly when the plaintext fits,
    "has more output" exactly when it does not; nothing else is ever reported. -/
theorem valid_stream_status_is_decided_by_the_window (r : Regs) (inp out : Array UInt8) (outPos budget flags : Nat)
    (res : Spec.Inflated) (hstart : r.state = sStart)
    (hshape : r.rawHeader.size = 4 ∧ r.tableSizes.size = 3 ∧ r.lenCodes.size = 512)
    (hflat : hasFlag flags fNonWrapping = true) (hz : hasFlag flags fParseZlib = false)
    (hstop : hasFlag flags fStopOnBlockBoundary = false) (hpos : outPos ≤ out.size)
    (hspec : Spec.inflateSpec (out.extract 0 outPos) 32768 inp 0 = .accept res) :
    ((decompress r inp out outPos budget flags).status = stDone ↔
      outPos + res.out.size ≤ min (outPos + budget) out.size) ∧
    ((decompress r inp out outPos budget flags).status = stHasMoreOutput ↔
      min (outPos + budget) out.size < outPos + res.out.size) ∧
    ((decompress r inp out outPos budget flags).status = stDone ∨
      (decompress r inp out outPos budget flags).status = stHasMoreOutput) := by
  have h := status_decides (fit := outPos + res.out.size ≤ min (outPos + budget) out.size)
    (fun hfit => (refine_raw_flat r inp out outPos budget flags 32768 res hstart hshape hflat hz hstop hpos hspec hfit).1)
    (fun hn => full_raw_flat r inp out outPos budget flags 32768 res hstart hshape hflat hz hstop hpos hspec (Nat.not_le.mp hn))
  exact ⟨h.1, by rw [← Nat.not_le]; exact h.2.1, h.2.2⟩

open Model.Core in
/-- … and what a limited call hands out is a PREFIX of the plaintext (buffer large enough for all of
    it, budget too small): with the C07 call composition — the limited call followed by a call with
    the remaining budget is the single call with all the budget, and the second call does not touch
    what the first wrote. -/
theorem limited_output_is_a_prefix_of_the_plaintext (r : Regs) (inp out : Array UInt8) (outPos budget flags maxDist : Nat)
    (res : Spec.Inflated) (hb : Bnd r) (hstart : r.state = sStart)
    (hshape : r.rawHeader.size = 4 ∧ r.tableSizes.size = 3 ∧ r.lenCodes.size = 512)
    (hflat : hasFlag flags fNonWrapping = true) (hz : hasFlag flags fParseZlib = false)
    (hstop : hasFlag flags fStopOnBlockBoundary = false)
    (hspec : Spec.inflateSpec (out.extract 0 outPos) maxDist inp 0 = .accept res)
    (hsize : outPos + res.out.size ≤ out.size) (hsmall : budget < res.out.size) :
    (decompress r inp out outPos budget flags).status = stHasMoreOutput ∧
    (decompress r inp out outPos budget flags).written = budget ∧
    ∀ i, i < budget → (decompress r inp out outPos budget flags).out[outPos + i]? = res.out[i]? := by
  have hpos : outPos ≤ out.size := by omega
  obtain ⟨h1, h2⟩ := valid_stream_too_big_is_has_more_output r inp out outPos budget flags maxDist res hstart hshape hflat hz hstop
    hpos hspec (by omega)
  have hw : (decompress r inp out outPos budget flags).written = budget := by rw [h2]; omega
  refine ⟨h1, hw, fun i hi => ?_⟩
  -- the single call with room for everything writes the plaintext, and agrees with the limited call
  -- on what that call wrote
  have hfr := (decompress_resume_frame r inp #[] out outPos budget (res.out.size - budget) flags hb (badGeometry_flat hflat hpos)
    (.inr h1) (by rw [hw]; omega)).2 (outPos + i) (by rw [hw]; omega)
  rw [hw, Array.append_empty] at hfr
  rw [← hfr]
  exact (refine_raw_flat r inp out outPos (budget + (res.out.size - budget)) flags maxDist res hstart hshape hflat hz hstop hpos
    hspec (by omega)).2.2.2 i (by omega)

open Model.Core in
/-- The same for the zlib format: a zlib stream the reference decoder accepts (header, body, trailer)
    whose plaintext does not fit the window is reported as "has more output"; one that fits, as `Done`. -/
theorem valid_zlib_stream_status_is_decided_by_the_window (r : Regs) (inp out : Array UInt8) (outPos budget flags : Nat)
    (zr : Spec.ZInflated) (hstart : r.state = sStart)
    (hshape : r.rawHeader.size = 4 ∧ r.tableSizes.size = 3 ∧ r.lenCodes.size = 512)
    (hflat : hasFlag flags fNonWrapping = true) (hz : hasFlag flags fParseZlib = true)
    (hstop : hasFlag flags fStopOnBlockBoundary = false) (hpos : outPos ≤ out.size)
    (hspec : Spec.zlibSpec (out.extract 0 outPos) 32768 inp true = .accept zr) :
    ((decompress r inp out outPos budget flags).status = stDone ↔
      outPos + zr.inner.out.size ≤ min (outPos + budget) out.size) ∧
    ((decompress r inp out outPos budget flags).status = stHasMoreOutput ↔
      min (outPos + budget) out.size < outPos + zr.inner.out.size) := by
  obtain ⟨cmf, flg, a, b, c, d, h0, h1, hv, hi, ha, hb, hc, hd, hadl, hused⟩ := zlibSpec_inv hspec
  have h := status_decides (fit := outPos + zr.inner.out.size ≤ min (outPos + budget) out.size)
    (fun hfit => by
      rw [(refine_zlib_flat r inp out outPos budget flags 32768 zr.inner cmf flg a b c d hstart hshape hflat hz hstop
        hpos h0 h1 hv hi ha hb hc hd hfit).1, if_neg fun hh => hh.2 (hadl rfl)])
    (fun hn => full_zlib_flat r inp out outPos budget flags 32768 zr.inner cmf flg hstart hshape hflat hz hstop hpos h0 h1 hv hi
      (Nat.not_le.mp hn))
  exact ⟨h.1, by rw [← Nat.not_le]; exact h.2.1⟩

/-! ### The size-limited vector functions (`Model.Vec.decompressToVec`, tied by the VECI correspondence) -/
/-- `decompress_to_vec*_with_limit` never returns more than the limit — neither as a result nor as
    the partial output carried by an error — for EVERY behaviour of the inner decoder (the inner
    calls are a script), every input length and every limit. -/
theorem vec_limit_respected (inLen maxOut : Nat) (script : List Model.Vec.Resp) :
    (Model.Vec.decompressToVec inLen maxOut script).len ≤ maxOut :=
  Model.Vec.decompressToVec_len_le inLen maxOut script

/-- The doubling loop cannot spin: starting from a non-empty buffer, after at most `limit − len + 1`
    has-more-output answers it has returned. -/
theorem vec_doubling_terminates (maxOut n : Nat) (rs : List Model.Vec.Resp) (inLeft bufLen outPos : Nat)
    (calls : List Model.Vec.Call) (hpos : 0 < bufLen) (hn : maxOut - bufLen < n) (hl : n ≤ rs.length) :
    ∀ cs, Model.Vec.inflLoop maxOut inLeft bufLen outPos calls rs ≠ .stuck cs :=
  Model.Vec.inflLoop_terminates maxOut n rs inLeft bufLen outPos calls hpos hn hl

example : Model.Vec.decompressToVec 3 5 [⟨2, 1, 5⟩, ⟨2, 0, 0⟩] = .err 2 5 [(3, 5, 0)] := by decide
example : Model.Vec.decompressToVec 3 50 [⟨2, 1, 6⟩, ⟨0, 2, 3⟩] = .ok 9 [(3, 6, 0), (2, 12, 6)] := by decide

example : (decompress {} #[0x01, 0x01, 0x00, 0xfe, 0xff, 0x41] (Array.replicate 4 0) 1 8 4).written = 1 := by
  decide +kernel

example : Gen.OutBuf.window_end 10 4 3 = 7 := by decide +kernel
example : Gen.OutBuf.window_end 10 4 100 = 10 := by decide +kernel

end C08
