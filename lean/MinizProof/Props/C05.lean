/-
C05 — decoding arbitrary bytes is total: no panic, no hang, counters within bounds.
Proved here over the parameter check REGENERATED from the top of `decompress_with_limit`
(`Gen.InflCore.geometry_rejects`), for EVERY buffer length and position below 2^64 (symbolically,
no enumeration): a flat buffer is refused exactly when out_pos > len; a ring buffer additionally
when its length is neither zero nor a power of two. And over `OutputBuffer::from_slice_pos_and_max`:
the write window never extends past the slice. Panic-freedom and termination of the automaton are
checked by the harness (3000+ random call histories on one decoder object with arbitrary flags,
geometries and inputs, in release and debug profiles, each call under catch_unwind and a call cap).
-/
import MinizProof.Gen.All
import MinizProof.Lemmas.GenArith
import MinizProof.Lemmas.CoreCall
import MinizProof.Lemmas.CoreTotal
import MinizProof.Lemmas.CoreSession
namespace C05
open Gen.InflCore

/-- Flat output buffer (TINFL_FLAG_USING_NON_WRAPPING_OUTPUT_BUF set): refused iff out_pos > len. -/
theorem geometry_flat (flags : Int) (len pos : Nat)
    (hf : (G.band (.u 32) flags TINFL_FLAG_USING_NON_WRAPPING_OUTPUT_BUF != 0) = true) :
    geometry_rejects flags len pos = decide (pos > len) := by
  unfold geometry_rejects
  simp only [Id.run, pure, hf, ↓reduceIte]
  -- the mask is `usize::MAX`: `mask + 1` wraps to 0
  have h : G.band (.u 64) (G.add (.u 64) (G.tyMax (.u 64)) 1) (G.tyMax (.u 64)) = 0 := by decide +kernel
  rw [h]
  simp

open Model.Core in
/-- Ring output buffer (flag clear): the source tests `len & (len - 1)` (for `len = 0` the mask
    `0.saturating_sub(1) = 0` passes), which is the model's `isPow2OrZero`. -/
theorem geometry_ring_eq (flags : Int) (len pos : Nat) (hl : len < 2 ^ 64)
    (hf : (G.band (.u 32) flags TINFL_FLAG_USING_NON_WRAPPING_OUTPUT_BUF != 0) = false) :
    geometry_rejects flags len pos = (!isPow2OrZero len || decide (pos > len)) := by
  unfold geometry_rejects
  simp only [Id.run, pure, hf, Bool.false_eq_true, ↓reduceIte]
  rw [show (1 : Int) = ((1 : Nat) : Int) from rfl, G.satSub_u64 len 1 hl]
  have hpos : decide ((pos : Int) > len) = decide (pos > len) := by simp
  rw [hpos]
  congr 1
  by_cases h0 : len = 0
  · subst h0; decide +kernel
  · have hadd : G.add (.u 64) ((len - 1 : Nat) : Int) ((1 : Nat) : Int) = (len : Int) := by
      rw [G.add_u64_of_lt (by omega) (by omega)]; omega
    rw [hadd, G.band_u64_nat len (len - 1) hl (by omega)]
    unfold isPow2OrZero
    rw [beq_false_of_ne h0, Bool.false_or]
    cases len &&& (len - 1) with
    | zero => rfl
    | succ n => rfl

open Model.Core in
theorem isPow2OrZero_iff (n : Nat) : isPow2OrZero n = true ↔ n = 0 ∨ n.isPowerOfTwo := by
  unfold isPow2OrZero
  rw [Bool.or_eq_true, beq_iff_eq, beq_iff_eq]
  by_cases h0 : n = 0
  · exact ⟨fun _ => .inl h0, fun _ => .inl h0⟩
  · rw [Nat.and_sub_one_eq_zero_iff_isPowerOfTwo h0]

open Model.Core in
/-- Ring output buffer: refused iff the length is neither 0 nor a power of two, or out_pos > len. -/
theorem geometry_ring (flags : Int) (len pos : Nat) (hl : len < 2 ^ 64)
    (hf : (G.band (.u 32) flags TINFL_FLAG_USING_NON_WRAPPING_OUTPUT_BUF != 0) = false) :
    geometry_rejects flags len pos = true ↔ (len ≠ 0 ∧ ¬ len.isPowerOfTwo) ∨ pos > len := by
  rw [geometry_ring_eq flags len pos hl hf, Bool.or_eq_true, Bool.not_eq_true', ← Bool.not_eq_true, isPow2OrZero_iff,
    decide_eq_true_eq, not_or]

/-- The write window `[out_pos, max)` of `OutputBuffer::from_slice_pos_and_max` ends at
    `min(out_pos + budget, len)`: it never extends past the slice and spans at most the budget
    (the saturating sum is cut off at `len < 2^64` anyway). -/
theorem window_within_slice (len pos budget : Nat) (hl : len < 2 ^ 64) :
    Gen.OutBuf.window_end len pos budget = ((min (pos + budget) len : Nat) : Int) := by
  unfold Gen.OutBuf.window_end
  simp only [Id.run, pure]
  rw [G.satAdd_u64]
  by_cases h : ((min (pos + budget) (2 ^ 64 - 1) : Nat) : Int) > len
  · rw [decide_eq_true h, if_pos rfl]; omega
  · rw [decide_eq_false h, if_neg (by decide)]; omega

/-! ### The decoder model (`Model.Core.decompress`, tied to the code by the ICALL correspondence) -/
open Model.Core

/-- The model's flag test is the source's `flags & FLAG != 0` for every 32-bit flags word. -/
theorem model_flag_test_is_source (flags : Nat) (hf : flags < 2 ^ 32) :
    (G.band (.u 32) (flags : Int) TINFL_FLAG_USING_NON_WRAPPING_OUTPUT_BUF != 0) = hasFlag flags fNonWrapping := by
  have h := G.band_u32_nat flags 4 hf (by decide)
  have h4 : TINFL_FLAG_USING_NON_WRAPPING_OUTPUT_BUF = ((4 : Nat) : Int) := rfl
  rw [h4, h]
  have := G.and_two_pow_ne_zero flags 2
  unfold hasFlag fNonWrapping
  rw [Bool.eq_iff_iff]
  simp only [bne_iff_ne, ne_eq, beq_iff_eq]
  constructor
  · intro hne; exact this.mp (by intro hz; apply hne; exact_mod_cast hz)
  · intro hb hz; exact (this.mpr hb) (by exact_mod_cast hz)

/-- TIE between the hand model and the regenerated source: the geometry the model refuses is
    exactly what the parameter check at the top of `decompress_with_limit` refuses, for every
    32-bit flags word, every buffer length below 2^64 and every position. -/
theorem model_geometry_is_source (flags len pos : Nat) (hf : flags < 2 ^ 32) (hl : len < 2 ^ 64) :
    badGeometry flags len pos = geometry_rejects flags len pos := by
  have hflag := model_flag_test_is_source flags hf
  unfold badGeometry
  cases hb : hasFlag flags fNonWrapping with
  | true => rw [geometry_flat flags len pos (by rw [hflag, hb])]; rfl
  | false => rw [geometry_ring_eq flags len pos hl (by rw [hflag, hb])]; rfl

/-- Unusable geometry: parameter error, nothing consumed or written, decoder state and output
    buffer returned untouched. -/
theorem bad_geometry_is_param_error (r : Regs) (inp out : Array UInt8) (outPos budget flags : Nat)
    (h : badGeometry flags out.size outPos = true) :
    decompress r inp out outPos budget flags =
      { status := stBadParam, consumed := 0, written := 0, r := r, out := out } :=
  decompress_bad r inp out outPos budget flags h

/-- Counters are within bounds on EVERY call, from every register state (reachable or not):
    at most the offered input is reported consumed, at most the granted budget and at most the
    space behind `outPos` is reported written, and the buffer keeps its size. -/
theorem counters_within_bounds (r : Regs) (inp out : Array UInt8) (outPos budget flags : Nat) :
    let res := decompress r inp out outPos budget flags
    res.consumed ≤ inp.size ∧ res.written ≤ budget ∧ res.written ≤ out.size - outPos ∧
    res.out.size = out.size := by
  have h := decompress_facts r inp out outPos budget flags
  exact ⟨h.consumed, h.wBudget, h.room, h.size⟩

/-- Once a stream has failed it keeps failing: from any failure state a call with usable geometry
    returns `Failed` with nothing consumed or written, and stays in the same failure state. -/
theorem failed_is_sticky (r : Regs) (inp out : Array UInt8) (outPos budget flags : Nat)
    (hs : sDoneForever < r.state) (hg : badGeometry flags out.size outPos = false) :
    let res := decompress r inp out outPos budget flags
    res.status = stFailed ∧ res.consumed = 0 ∧ res.written = 0 ∧ res.r.state = r.state ∧ res.out = out := by
  intro res
  have hrun : callRun r inp out outPos budget flags = (stFailed, { r := r, inPos := 0, outPos := outPos }, out) := by
    unfold callRun callFuel
    rw [run, step, stepAt_failed _ hs]
  have hres : res = epilogue flags outPos (min (outPos + budget) out.size) stFailed { r := r, inPos := 0, outPos := outPos } out := by
    show decompress r inp out outPos budget flags = _
    rw [decompress_eq _ _ _ _ _ _ hg, hrun]
  rw [hres]
  exact ⟨epilogue_failed _ _ _ _ _, by rw [epilogue_consumed]; exact Nat.zero_sub _, by rw [epilogue_written]; exact Nat.sub_self _,
    by rw [epilogue_state]; rfl, epilogue_out _ _ _ _ _ _⟩

/-- TOTALITY of the model: for EVERY register state (reachable or not), every input, every output
    buffer, position, budget and flags word, a call terminates with one of the eight real status
    codes — it never exhausts its fuel (`stModelError`). The proof is a termination measure
    (`Lemmas/CoreTotal`: unread bits, room in the window, a per-state rank below 8) that every
    non-final transition of the 24 working states strictly lowers. -/
theorem call_always_terminates (r : Regs) (inp out : Array UInt8) (outPos budget flags : Nat) :
    let st := (decompress r inp out outPos budget flags).status
    st = stBadParam ∨ st = stAdler32Mismatch ∨ st = stFailed ∨ st = stDone ∨ st = stNeedsMoreInput ∨
    st = stHasMoreOutput ∨ st = stFailedCannotMakeProgress ∨
    (st = stBlockBoundary ∧ hasFlag flags fStopOnBlockBoundary = true) := by
  intro st
  by_cases hg : badGeometry flags out.size outPos = true
  · left; show (decompress r inp out outPos budget flags).status = _
    rw [decompress_bad r inp out outPos budget flags hg]
  rw [Bool.not_eq_true] at hg
  have hfin := callRun_fin r inp out outPos budget flags hg
  have hst : st = (decompress r inp out outPos budget flags).status := rfl
  rw [decompress_eq _ _ _ _ _ _ hg] at hst
  generalize callRun r inp out outPos budget flags = R at hst hfin
  obtain ⟨s0, c, out'⟩ := R
  -- the epilogue turns `Done` into a checksum mismatch, "needs more input" with a full window into
  -- "has more output", and nothing else
  rcases epilogue_status flags outPos (min (outPos + budget) out.size) s0 c out' with h | h
  · rw [h] at hst
    rcases exitStatus_cases s0 c (min (outPos + budget) out.size) with hx | hx
    · rw [hx] at hst
      rw [hst]
      rcases hfin with h1 | h1 | h1 | h1 | h1
      · exact .inr (.inr (.inr (.inr (.inr (.inl h1.1)))))
      · rcases eoi_cases (callEnv inp out outPos budget flags) with h2 | h2
        · exact .inr (.inr (.inr (.inr (.inl (h1.1.trans h2)))))
        · exact .inr (.inr (.inr (.inr (.inr (.inr (.inl (h1.1.trans h2)))))))
      · exact .inr (.inr (.inr (.inl h1.1)))
      · exact .inr (.inr (.inl h1.1))
      · exact .inr (.inr (.inr (.inr (.inr (.inr (.inr h1))))))
    · exact .inr (.inr (.inr (.inr (.inr (.inl (hst.trans hx.1))))))
  · exact .inr (.inl (hst.trans h.1))

example : badGeometry 0 3 0 = true := by decide
example : badGeometry 4 3 4 = true := by decide
example : badGeometry 0 32768 32768 = false := by decide +kernel

example : geometry_rejects 0 3 0 = true := by decide +kernel
example : geometry_rejects 0 32768 32768 = false := by decide +kernel
example : geometry_rejects 4 3 4 = true := by decide +kernel

end C05
