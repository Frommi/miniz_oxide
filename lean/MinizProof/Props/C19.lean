/-
C19 — decoder snapshots resume identically: clone, serialisation, block boundary.
Decided here over the PROGRAM-TEXT facts regenerated from the source: the decoder state structs
derive Clone and (under the serde feature) Serialize + Deserialize; no field is skipped; every
array field longer than 32 elements (serde's built-in limit) carries `serde(with = "BigArray")`
and its length — a constant REGENERATED from the source — is one of the lengths instantiated by
`big_array!`; the boundary record's five fields. So a (de)serialised copy carries every register.
That continuing from a clone / a serialise-deserialise copy / a decoder rebuilt from the boundary
record plus 32 KiB of output gives identical results is checked per run at every inter-call point
and every block boundary; the bit positions of the stops are compared with the block ends of the
Lean reference decoder's trace (exactly one stop per non-final block).
-/
import MinizProof.Gen.Facts
namespace C19
open PT Gen.Facts

def serdeComplete (s : Struct) : Bool :=
  s.deriveSerde && s.deriveClone &&
  s.fields.all (fun f => !f.serdeSkip &&
    match arrLen f.ty with
    | some n => if n > 32 then f.bigArray && bigArrayLens.contains n else !f.bigArray
    | none => !f.bigArray)

theorem decoder_state_fully_serialised :
    (match findStruct structs ty_DecompressorOxide with | some s => serdeComplete s && s.fields.length == 19 | none => false) = true ∧
    (match findStruct structs ty_HuffmanTable with | some s => serdeComplete s && s.fields.length == 2 | none => false) = true ∧
    (match findStruct structs ty_BlockBoundaryState with | some s => s.deriveSerde && s.deriveClone && s.fields.length == 5 | none => false) = true ∧
    (match findStruct structs ty_State with | some s => s.deriveSerde && s.deriveClone && s.isEnum && s.unitOnly | none => false) = true := by
  decide +kernel

/-- The array lengths in use are the constants of the source, and `big_array!` lists exactly the long ones. -/
theorem big_array_lengths :
    bigArrayLens = [288, 512, 576, 1024] ∧
    Gen.InflCore.MAX_HUFF_SYMBOLS_0 = 288 ∧ Gen.InflCore.LEN_CODES_SIZE = 512 ∧
    Gen.InflCore.MAX_HUFF_TREE_SIZE = 576 ∧ Gen.InflCore.FAST_LOOKUP_SIZE = 1024 := by
  decide +kernel

/-- The stop flag is a distinct bit that no other inflate flag uses. -/
theorem stop_flag_distinct :
    Gen.InflCore.TINFL_FLAG_STOP_ON_BLOCK_BOUNDARY = 128 ∧
    [Gen.InflCore.TINFL_FLAG_PARSE_ZLIB_HEADER, Gen.InflCore.TINFL_FLAG_HAS_MORE_INPUT,
     Gen.InflCore.TINFL_FLAG_USING_NON_WRAPPING_OUTPUT_BUF, Gen.InflCore.TINFL_FLAG_COMPUTE_ADLER32,
     Gen.InflCore.TINFL_FLAG_IGNORE_ADLER32] = [1, 2, 4, 8, 64] ∧
    Gen.InflMod.TINFLStatus.BlockBoundary = 3 := by
  decide +kernel

end C19
