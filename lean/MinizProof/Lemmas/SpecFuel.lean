/-
The reference decoder's fuel is never the reason it stops: every loop iteration of `Spec.inflateSpec`
moves the bit position forward and stays inside the data, and the fuel handed out by `fuelFor` exceeds
the number of bits. So the verdict `.fuel` does not occur, and "not accepted" means rejected or
truncated. Specification-side facts only; used by Props/C04.
-/
import MinizProof.Lemmas.CoreDynamic
namespace Spec
open Model.Core

theorem bitAt_isSome_lt {data : Array UInt8} {q : Nat} (h : (bitAt data q).isSome = true) : q < 8 * data.size := by
  obtain ⟨b, hb⟩ := bitAt_isSome_byte h
  have : q / 8 < data.size := getElem?_some_lt hb
  omega

theorem decodeSym_bound {c : Code} {data : Array UInt8} {pos s p : Nat} (h : decodeSym c data pos = .sym s p) :
    pos < p ∧ p ≤ 8 * data.size := by
  have h1 := decodeSymAux_pos c data _ _ _ _ _ _ _ _ h
  have h2 := decodeSymAux_avail c data _ _ _ _ _ _ _ _ h (p - 1) (by omega) (by omega)
  have := bitAt_isSome_lt h2
  omega

theorem bitsAt_bound {data : Array UInt8} {pos n v : Nat} (h : bitsAt data pos n = some v) (hn : 0 < n) :
    pos + n ≤ 8 * data.size := by
  have := bitAt_isSome_lt (bitsAt_some_bitAt data n pos v h (n - 1) (by omega))
  omega

/-- with a position already inside the data, a field read (possibly of no bits) stays inside -/
theorem bitsAt_bound' {data : Array UInt8} {pos n v : Nat} (h : bitsAt data pos n = some v) (hp : pos ≤ 8 * data.size) :
    pos + n ≤ 8 * data.size := by
  by_cases hn : 0 < n
  · exact bitsAt_bound h hn
  · omega

theorem decodeToken_lit_bound {maxDist : Nat} {lit dist : Code} {data : Array UInt8} {pos avail : Nat} {b : UInt8} {p : Nat}
    (h : decodeToken maxDist lit dist data pos avail = .lit b p) : pos < p ∧ p ≤ 8 * data.size := by
  obtain ⟨s, hd, _, _⟩ := decodeToken_lit_inv h
  exact decodeSym_bound hd

theorem decodeToken_eob_bound {maxDist : Nat} {lit dist : Code} {data : Array UInt8} {pos avail : Nat} {p : Nat}
    (h : decodeToken maxDist lit dist data pos avail = .eob p) : pos < p ∧ p ≤ 8 * data.size :=
  decodeSym_bound (decodeToken_eob_inv h)

theorem decodeToken_copy_bound {maxDist : Nat} {lit dist : Code} {data : Array UInt8} {pos avail : Nat} {len dd p : Nat}
    (h : decodeToken maxDist lit dist data pos avail = .copy len dd p) : pos < p ∧ p ≤ 8 * data.size := by
  obtain ⟨s, p1, lx, d, p3, dx, hd, _, _, hlx, hdd, _, hdx, _, _, hp, _⟩ := decodeToken_copy_inv h
  have b1 := decodeSym_bound hd
  have b2 := decodeSym_bound hdd
  have b3 := bitsAt_bound' hdx b2.2
  omega

theorem decodeTokens_fuel (pre : Array UInt8) (maxDist : Nat) (lit dist : Code) (data : Array UInt8) :
    ∀ (fuel pos : Nat) (o : Array UInt8) (toks : Array Token), pos ≤ 8 * data.size → 8 * data.size + 1 ≤ fuel + pos →
    Decided True (fun R => pos < R.1 ∧ R.1 ≤ 8 * data.size) (decodeTokens pre maxDist lit dist data fuel pos o toks) := by
  intro fuel
  induction fuel with
  | zero => intro pos o toks h1 h2; omega
  | succ fuel ih =>
    intro pos o toks h1 h2
    rw [decodeTokens]
    cases ht : decodeToken maxDist lit dist data pos (pre.size + o.size) with
    | lit b p =>
      have hb := decodeToken_lit_bound ht
      exact (ih p (o.push b) (toks.push (.lit b)) hb.2 (by omega)).mono (fun R h => ⟨by omega, h.2⟩)
    | eob p => exact decodeToken_eob_bound ht
    | copy len dd p =>
      have hb := decodeToken_copy_bound ht
      exact (ih p (copyMatch pre o dd len) (toks.push (.copy len dd)) hb.2 (by omega)).mono (fun R h => ⟨by omega, h.2⟩)
    | reject w => trivial
    | truncated => trivial

theorem readLenStep_bound {cl : Code} {data : Array UInt8} {pos p' : Nat} {acc acc' : Array Nat}
    (h : readLenStep cl data pos acc = .more p' acc') :
    pos < p' ∧ p' ≤ 8 * data.size ∧ acc'.size ≤ acc.size + 138 := by
  unfold readLenStep at h
  cases hd : decodeSym cl data pos with
  | short => simp [hd] at h
  | invalid => simp [hd] at h
  | sym s p =>
    have hb := decodeSym_bound hd
    -- a repeat code: `n` extra bits, at most `2 ^ n - 1 + base` copies
    have rep : ∀ {n base r : Nat} {v : Nat}, bitsAt data p n = some r → 0 < n → 2 ^ n + base ≤ 139 →
        pos < p + n ∧ p + n ≤ 8 * data.size ∧ (acc ++ Array.replicate (base + r) v).size ≤ acc.size + 138 := by
      intro n base r v hx hn hle
      have := bitsAt_bound hx hn
      have := bitsAt_lt _ _ _ _ hx
      simp only [Array.size_append, Array.size_replicate]
      omega
    simp only [hd] at h
    by_cases h16 : s < 16
    · simp only [h16, ↓reduceIte, LenStep.more.injEq] at h
      rw [← h.1, ← h.2, Array.size_push]; omega
    · simp only [h16, ↓reduceIte] at h
      by_cases e16 : s = 16
      · simp only [e16, ↓reduceIte] at h
        by_cases hz : acc.size = 0
        · simp [hz] at h
        · simp only [hz, ↓reduceIte] at h
          cases hx : bitsAt data p 2 with
          | none => simp [hx] at h
          | some r =>
            simp only [hx, LenStep.more.injEq] at h
            rw [← h.1, ← h.2]; exact rep hx (by omega) (by omega)
      · simp only [e16, ↓reduceIte] at h
        by_cases e17 : s = 17
        · simp only [e17, ↓reduceIte] at h
          cases hx : bitsAt data p 3 with
          | none => simp [hx] at h
          | some r =>
            simp only [hx, LenStep.more.injEq] at h
            rw [← h.1, ← h.2]; exact rep hx (by omega) (by omega)
        · simp only [e17, ↓reduceIte] at h
          cases hx : bitsAt data p 7 with
          | none => simp [hx] at h
          | some r =>
            simp only [hx, LenStep.more.injEq] at h
            rw [← h.1, ← h.2]; exact rep hx (by omega) (by omega)

theorem readLens_fuel (cl : Code) (data : Array UInt8) (total : Nat) :
    ∀ (fuel pos : Nat) (acc : Array Nat), pos ≤ 8 * data.size → 8 * data.size + 1 ≤ fuel + pos →
    Decided True (fun R => pos ≤ R.1 ∧ R.1 ≤ 8 * data.size) (readLens cl data total fuel pos acc) := by
  intro fuel
  induction fuel with
  | zero => intro pos acc h1 h2; omega
  | succ fuel ih =>
    intro pos acc h1 h2
    rw [readLens]
    by_cases e1 : acc.size = total
    · rw [if_pos e1]; exact ⟨Nat.le_refl _, h1⟩
    · rw [if_neg e1]
      by_cases e2 : acc.size > total
      · rw [if_pos e2]; trivial
      · rw [if_neg e2]
        cases hst : readLenStep cl data pos acc with
        | more p' acc' =>
          have hb := readLenStep_bound hst
          exact (ih p' acc' hb.2.1 (by omega)).mono (fun R h => ⟨by omega, h.2⟩)
        | reject w => trivial
        | truncated => trivial

theorem readClens_bound (data : Array UInt8) : ∀ (n pos : Nat) (order : List Nat) (acc : Array Nat) (p : Nat) (acc' : Array Nat),
    readClens data n pos order acc = some (p, acc') → pos ≤ 8 * data.size → pos ≤ p ∧ p ≤ 8 * data.size := by
  intro n
  induction n with
  | zero => intro pos order acc p acc' h hp; cases (readClens_zero _ _ _ _).symm.trans h; exact ⟨Nat.le_refl _, hp⟩
  | succ n ih =>
    intro pos order acc p acc' h hp
    cases order with
    | nil => cases (readClens_nil _ _ _ _).symm.trans h; exact ⟨Nat.le_refl _, hp⟩
    | cons o os =>
      rw [readClens_cons] at h
      cases hv : bitsAt data pos 3 with
      | none => rw [hv] at h; cases h
      | some v =>
        rw [hv] at h
        have := ih _ _ _ _ _ h (bitsAt_bound hv (by omega))
        exact ⟨Nat.le_trans (Nat.le_add_right _ _) this.1, this.2⟩

theorem inflateBlock_fuel (pre : Array UInt8) (maxDist : Nat) (data : Array UInt8) (fuel pos : Nat) (o : Array UInt8)
    (h2 : 8 * data.size + 1 ≤ fuel + pos) :
    Decided True (fun R => pos < R.1 ∧ R.1 ≤ 8 * data.size) (inflateBlock pre maxDist data fuel pos o) := by
  -- a Huffman block's verdict is its token loop's
  have htok : ∀ {lit dist : Code} {p : Nat} {mk : Nat × Array UInt8 × Array Token → BlockInfo}, pos < p → p ≤ 8 * data.size →
      Decided True (fun R => pos < R.1 ∧ R.1 ≤ 8 * data.size)
        ((decodeTokens pre maxDist lit dist data fuel p o #[]).map fun R => (R.1, R.2.1, mk R)) := fun hp1 hp2 =>
    Decided.map.mpr ((decodeTokens_fuel pre maxDist _ _ data fuel _ o #[] hp2 (by omega)).mono fun R h => ⟨by omega, h.2⟩)
  cases hv : bitsAt data pos 3 with
  | none => rw [inflateBlock_short hv]; trivial
  | some hdr =>
    have hb3 := bitsAt_bound hv (by omega)
    refine inflateBlock_cases hv (fun _ _ => trivial) (fun _ _ _ _ _ _ => trivial) (fun _ _ _ _ _ _ _ => trivial)
      (fun len nlen o' _ _ hn _ hcp => ?_) (fun _ => htok (by omega) hb3) (fun _ _ => trivial) (fun _ _ _ _ _ _ _ _ => trivial)
      (fun _ _ _ _ _ _ _ _ _ => trivial) (fun _ _ _ _ _ _ _ _ _ _ _ _ => trivial)
      (fun hlit hdist hclen p1 clens _ _ _ h3 _ hcl _ hna => ?_) (fun _ _ _ _ _ _ _ _ _ _ _ _ _ _ _ _ => trivial)
      (fun hlit hdist hclen p1 clens p2 lens _ _ _ h3 _ hcl _ hlens _ _ => ?_) (fun _ => trivial)
    · have hbn := bitsAt_bound hn (by omega)
      have hsp := (copyStored_spec data len _ o o' hcp).1
      show pos < 8 * ((pos + 3 + 7) / 8 + 4 + len) ∧ 8 * ((pos + 3 + 7) / 8 + 4 + len) ≤ 8 * data.size
      by_cases hz : 0 < len
      · have := hsp hz; omega
      · omega
    · have hbc := readClens_bound data _ _ _ _ _ _ hcl (by have := bitsAt_bound h3 (by omega); omega)
      have hl := readLens_fuel (mkCode clens) data (hlit + 257 + (hdist + 1)) fuel p1 #[] hbc.2 (by omega)
      cases hlens : readLens (mkCode clens) data (hlit + 257 + (hdist + 1)) fuel p1 #[] with
      | accept R => exact absurd hlens (hna R)
      | reject w => trivial
      | truncated q => trivial
      | fuel => rw [hlens] at hl; exact hl
    · have hbc := readClens_bound data _ _ _ _ _ _ hcl (by have := bitsAt_bound h3 (by omega); omega)
      have hl := readLens_fuel (mkCode clens) data (hlit + 257 + (hdist + 1)) fuel p1 #[] hbc.2 (by omega)
      rw [hlens] at hl
      exact htok (by have := hl.1; omega) hl.2

theorem inflateBlocks_fuel (pre : Array UInt8) (maxDist : Nat) (data : Array UInt8) :
    ∀ (fuel pos : Nat) (o : Array UInt8) (bl : Array BlockInfo), pos ≤ 8 * data.size → 8 * data.size + 2 ≤ fuel + pos →
    inflateBlocks pre maxDist data fuel pos o bl ≠ .fuel := by
  intro fuel
  induction fuel with
  | zero => intro pos o bl h1 h2; omega
  | succ fuel ih =>
    intro pos o bl h1 h2
    rw [inflateBlocks_succ]
    have h := inflateBlock_fuel pre maxDist data fuel pos o (by omega)
    cases hb : inflateBlock pre maxDist data fuel pos o with
    | accept R1 =>
      obtain ⟨p1, o1, info⟩ := R1
      rw [hb] at h
      have hbnd : pos < p1 ∧ p1 ≤ 8 * data.size := h
      by_cases hf : info.final = true
      · simp only [hf, ↓reduceIte]; simp
      · simp only [hf, Bool.false_eq_true, ↓reduceIte]
        exact ih p1 o1 _ hbnd.2 (by omega)
    | reject w => simp
    | truncated p => simp
    | fuel => rw [hb] at h; exact h.elim

/-- THE REFERENCE DECODER NEVER STOPS FOR LACK OF FUEL. -/
theorem inflateSpec_ne_fuel (pre : Array UInt8) (maxDist : Nat) (data : Array UInt8) (startBit : Nat) :
    inflateSpec pre maxDist data startBit ≠ .fuel := by
  unfold inflateSpec
  by_cases h : startBit ≤ 8 * data.size
  · have := inflateBlocks_fuel pre maxDist data (fuelFor data) startBit #[] #[] h (by unfold fuelFor; omega)
    cases hb : inflateBlocks pre maxDist data (fuelFor data) startBit #[] #[] with
    | accept R => simp
    | reject w => simp
    | truncated p => simp
    | fuel => exact absurd hb this
  · have hf : fuelFor data = (8 * data.size + 15) + 1 := rfl
    rw [hf, inflateBlocks_succ]
    cases hv : bitsAt data startBit 3 with
    | none => rw [inflateBlock_short hv]; exact nofun
    | some hdr => have := bitsAt_bound hv (by omega); omega

theorem zlibSpec_ne_fuel (pre : Array UInt8) (maxDist : Nat) (data : Array UInt8) (chk : Bool) :
    zlibSpec pre maxDist data chk ≠ .fuel := by
  unfold zlibSpec
  have hne := inflateSpec_ne_fuel pre maxDist data 16
  cases h0 : data[0]? with
  | none => simp
  | some cmf =>
    cases h1 : data[1]? with
    | none => simp
    | some flg =>
      by_cases hv : zlibHeaderValid cmf.toNat flg.toNat = true
      · simp only [hv, Bool.not_true, Bool.false_eq_true, ↓reduceIte]
        cases hi : inflateSpec pre maxDist data 16 with
        | accept r =>
          simp only
          split
          · split
            · exact nofun
            · exact nofun
          · exact nofun
        | reject w => simp
        | truncated p => simp
        | fuel => exact absurd hi hne
      · simp [hv]

end Spec
