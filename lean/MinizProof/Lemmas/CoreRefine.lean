/-
The one-shot refinement theorem: whenever the specification's reference decoder (`Spec.inflateSpec`)
accepts a raw DEFLATE stream, one call of the decoder model on the whole input with a flat output
buffer that has room for the plaintext returns `Done`, writes exactly the specified bytes, and
reports exactly ⌈bits used / 8⌉ input bytes consumed (`refine_raw_flat`). It is put together from two
pieces: a PATH of the automaton (`Reaches`: `sim_start_raw`, `sim_blocks`, together `sim_raw`), and
`decompress_of_reaches`, which turns any path that ends in a stopping transition into the result of the
call — the epilogue of that stop. The forward theorems for the zlib format (`refine_zlib_flat`) and for a
flush-point prefix (`flush_finish`) are built the same way, from their own path and `decompress_of_reaches`,
so they neither look inside `decompress` nor count fuel: `run_fuel_mono` and the totality of the call's own
fuel (`callRun_ne`) do that here; the converse (`Lemmas/CoreConverse`) uses these two directly.
-/
import MinizProof.Lemmas.CoreDynamic
namespace Model.Core
open Spec
variable {e : Env} {c : Ctx} {outA : Array UInt8}

theorem inflateBlock_size_le {pre : Array UInt8} {maxDist : Nat} {data : Array UInt8} {fuel pos : Nat}
    {o : Array UInt8} {R : Nat × Array UInt8 × BlockInfo}
    (h : inflateBlock pre maxDist data fuel pos o = .accept R) : o.size ≤ R.2.1.size := by
  have huff : ∀ {lit dist : Code} {p : Nat} {f : Nat × Array UInt8 × Array Token → BlockInfo},
      (decodeTokens pre maxDist lit dist data fuel p o #[]).map (fun T => (T.1, T.2.1, f T)) = .accept R →
      o.size ≤ R.2.1.size := fun h => by
    obtain ⟨T, ht, hR⟩ := Verdict.map_accept h
    rw [← hR]
    exact decodeTokens_size_le _ _ _ _ _ _ _ _ _ _ ht
  cases hv : bitsAt data pos 3 with
  | none => rw [inflateBlock_short hv] at h; cases h
  | some hdr =>
    revert h
    exact inflateBlock_cases (motive := fun v => v = _ → _) hv (fun _ _ => nofun) (fun _ _ _ _ _ _ => nofun)
      (fun _ _ _ _ _ _ _ => nofun)
      (fun len _ o2 _ _ _ _ hcp h => by cases h; exact Nat.le.intro (copyStored_spec _ _ _ _ _ hcp).2.symm)
      (fun _ => huff) (fun _ _ => nofun) (fun _ _ _ _ _ _ _ _ => nofun) (fun _ _ _ _ _ _ _ _ _ => nofun)
      (fun _ _ _ _ _ _ _ _ _ _ _ _ => nofun) (fun _ _ _ _ _ _ _ _ _ _ _ _ hna h => absurd h (Verdict.stop_ne_accept hna))
      (fun _ _ _ _ _ _ _ _ _ _ _ _ _ _ _ _ => nofun) (fun _ _ _ _ _ _ _ _ _ _ _ _ _ _ _ _ _ => huff) (fun _ => nofun)

theorem inflateBlocks_size_le (pre : Array UInt8) (maxDist : Nat) (data : Array UInt8) :
    ∀ (fuel pos : Nat) (o : Array UInt8) (bl : Array BlockInfo) (R : Nat × Array UInt8 × Array BlockInfo),
    inflateBlocks pre maxDist data fuel pos o bl = .accept R → o.size ≤ R.2.1.size := by
  intro fuel
  induction fuel with
  | zero => intro pos o bl R h; simp [inflateBlocks] at h
  | succ fuel ih =>
    intro pos o bl R h
    rw [inflateBlocks_succ] at h
    cases hb : inflateBlock pre maxDist data fuel pos o with
    | accept R1 =>
      obtain ⟨p1, o1, info⟩ := R1
      have h1 := inflateBlock_size_le hb
      simp only [hb] at h
      by_cases hf : info.final = true
      · simp only [hf, ↓reduceIte, Verdict.accept.injEq] at h
        rw [← h]; exact h1
      · simp only [hf, Bool.false_eq_true, ↓reduceIte] at h
        have := ih _ _ _ _ h
        simp only at h1; omega
    | reject w => simp [hb] at h
    | truncated p => simp [hb] at h
    | fuel => simp [hb] at h

theorem micro_blockDone_next (hs : c.r.state = sBlockDone) (hf : c.r.finish = 0)
    (hstop : hasFlag e.flags fStopOnBlockBoundary = false) :
    step e c outA = .cont (setState c sReadBlockHeader) outA := by
  rw [step_BlockDone hs]
  unfold stBlockDone
  simp only [hf, ne_eq, not_true_eq_false, ↓reduceIte, hstop, Bool.false_eq_true]

theorem micro_blockDone_final (hs : c.r.state = sBlockDone) (hf : c.r.finish ≠ 0) (h8 : c.r.numBits < 8)
    (hz : hasFlag e.flags fParseZlib = false) :
    ∃ c1, step e c outA = .cont c1 outA ∧ c1.r.state = sDoneForever ∧ c1.r.numBits = 0 ∧ c1.inPos = c.inPos ∧
      c1.outPos = c.outPos := by
  rw [step_BlockDone hs]
  unfold stBlockDone
  have hm : c.r.numBits % 8 = c.r.numBits := Nat.mod_eq_of_lt h8
  simp only [hf, ne_eq, not_false_eq_true, ↓reduceIte, hz, Bool.false_eq_true, hm, Nat.sub_self, Nat.zero_div,
    Nat.zero_min, Nat.mul_zero, Nat.sub_zero]
  exact ⟨_, rfl, rfl, rfl, rfl, rfl⟩

theorem sim_block_next (hflat : e.ring = false) (hend : e.outEnd ≤ e.outLen)
    (hstop : hasFlag e.flags fStopOnBlockBoundary = false) {pre : Array UInt8} {maxDist fuel pos : Nat}
    {o : Array UInt8} {pos' : Nat} {o' : Array UInt8} {info : BlockInfo}
    (h : inflateBlock pre maxDist e.inp fuel pos o = .accept (pos', o', info)) (hf : info.final ≠ true)
    (hs : c.r.state = sReadBlockHeader) (hsim : Sim e c outA pos (pre ++ o)) (hsh : Shape c)
    (hroom : pre.size + o'.size ≤ e.outEnd) :
    ∃ c' outA', Reaches e c outA c' outA' ∧ c'.r.state = sReadBlockHeader ∧ Sim e c' outA' pos' (pre ++ o') ∧
      InvZ c c' ∧ Shape c' := by
  obtain ⟨c1, outA1, r1, hs1, hsim1, hfin1, z1, sh1⟩ := sim_block hflat hend h hs hsim hsh hroom
  have hf0 : c1.r.finish = 0 := Decidable.not_not.mp fun hz => hf (hfin1.mp hz)
  exact ⟨setState c1 sReadBlockHeader, outA1, r1.trans (Reaches.of_step (micro_blockDone_next hs1 hf0 hstop)), rfl,
    ⟨hsim1.rep.of_eq rfl rfl rfl, hsim1.nb8, hsim1.outPos, hsim1.outEq, hsim1.size⟩,
    ⟨z1.z0, z1.z1, z1.zA, z1.chk⟩, sh1⟩

/-- THE BLOCK LOOP: whenever the specification accepts the blocks of a stream, the model goes from
    `ReadBlockHeader` to the `BlockDone` of the final block. -/
theorem sim_blocks (hflat : e.ring = false) (hend : e.outEnd ≤ e.outLen)
    (hstop : hasFlag e.flags fStopOnBlockBoundary = false) (pre : Array UInt8) (maxDist : Nat) :
    ∀ (fuel pos : Nat) (o : Array UInt8) (bl : Array BlockInfo) (R : Nat × Array UInt8 × Array BlockInfo)
      (c : Ctx) (outA : Array UInt8),
    inflateBlocks pre maxDist e.inp fuel pos o bl = .accept R →
    c.r.state = sReadBlockHeader → Sim e c outA pos (pre ++ o) → Shape c → pre.size + R.2.1.size ≤ e.outEnd →
    ∃ c' outA', Reaches e c outA c' outA' ∧ c'.r.state = sBlockDone ∧ Sim e c' outA' R.1 (pre ++ R.2.1) ∧
      c'.r.finish ≠ 0 ∧ InvZ c c' := by
  intro fuel
  induction fuel with
  | zero => intro pos o bl R c outA h; simp [inflateBlocks] at h
  | succ fuel ih =>
    intro pos o bl R c outA h hs hsim hsh hroom
    rw [inflateBlocks_succ] at h
    cases hb : inflateBlock pre maxDist e.inp fuel pos o with
    | accept R1 =>
      obtain ⟨p1, o1, info⟩ := R1
      simp only [hb] at h
      by_cases hf : info.final = true
      · simp only [hf, ↓reduceIte, Verdict.accept.injEq] at h
        subst h
        obtain ⟨c1, outA1, r1, hs1, hsim1, hfin1, z1, sh1⟩ := sim_block hflat hend hb hs hsim hsh hroom
        exact ⟨c1, outA1, r1, hs1, hsim1, hfin1.mpr hf, z1⟩
      · simp only [hf, Bool.false_eq_true, ↓reduceIte] at h
        obtain ⟨c2, outA2, r2, hs2, hsim2, z2, sh2⟩ :=
          sim_block_next hflat hend hstop hb hf hs hsim hsh
            (Nat.le_trans (Nat.add_le_add_left (inflateBlocks_size_le pre maxDist e.inp _ _ _ _ _ h) _) hroom)
        obtain ⟨c', outA', r', hs', hsim', hfin', z'⟩ := ih p1 o1 _ R c2 outA2 h hs2 hsim2 sh2 hroom
        exact ⟨c', outA', r2.trans r', hs', hsim', hfin', z2.trans z'⟩
    | reject w => simp [hb] at h
    | truncated p => simp [hb] at h
    | fuel => simp [hb] at h

theorem run_of_reaches_fin {r : Regs} {inp out : Array UInt8} {outPos budget flags : Nat} {c1 c2 : Ctx}
    {o1 o2 : Array UInt8} {st : Int} (hg : badGeometry flags out.size outPos = false)
    (hreach : Reaches (callEnv inp out outPos budget flags) { r := r, inPos := 0, outPos := outPos } out c1 o1)
    (hstep : step (callEnv inp out outPos budget flags) c1 o1 = .fin st c2 o2) :
    callRun r inp out outPos budget flags = (st, c2, o2) := by
  obtain ⟨k, hk⟩ := hreach
  have hne := callRun_ne r inp out outPos budget flags hg
  unfold callRun at hne ⊢
  rw [← run_fuel_mono _ _ _ _ hne (callFuel r inp (min (outPos + budget) out.size - outPos) + 1 + k) (by omega), hk,
    run, hstep]

theorem decompress_of_reaches {r : Regs} {inp out : Array UInt8} {outPos budget flags : Nat} {c1 c2 : Ctx}
    {o1 o2 : Array UInt8} {st : Int} (hg : badGeometry flags out.size outPos = false)
    (hreach : Reaches (callEnv inp out outPos budget flags) { r := r, inPos := 0, outPos := outPos } out c1 o1)
    (hstep : step (callEnv inp out outPos budget flags) c1 o1 = .fin st c2 o2) :
    decompress r inp out outPos budget flags = epilogue flags outPos (min (outPos + budget) out.size) st c2 o2 := by
  rw [decompress_eq _ _ _ _ _ _ hg, run_of_reaches_fin hg hreach hstep]

theorem size_extract_prefix {out : Array UInt8} {n : Nat} (h : n ≤ out.size) : (out.extract 0 n).size = n := by
  rw [Array.size_extract, Nat.sub_zero, Nat.min_eq_left h]

theorem epilogue_bytes {flags outPos outEnd : Nat} {st : Int} {c : Ctx} {outB pre o : Array UInt8}
    (hpre : pre.size = outPos) (ho : c.outPos = (pre ++ o).size) (heq : OutEq outB (pre ++ o)) :
    (epilogue flags outPos outEnd st c outB).written = o.size ∧
    ∀ i, i < o.size → (epilogue flags outPos outEnd st c outB).out[outPos + i]? = o[i]? := by
  rw [Array.size_append, hpre] at ho
  refine ⟨by rw [epilogue_written, ho]; omega, fun i hi => ?_⟩
  rw [epilogue_out, heq (outPos + i) (by rw [Array.size_append]; omega), Array.getElem?_append_right (by omega)]
  congr 1
  omega

theorem OutEq.extract_eq {outB pre o : Array UInt8} (heq : OutEq outB (pre ++ o)) (hsz : pre.size + o.size ≤ outB.size) :
    outB.extract pre.size (pre.size + o.size) = o := by
  apply Array.ext_getElem?
  intro i
  rw [Array.getElem?_extract, Nat.min_eq_left hsz]
  by_cases hi : i < pre.size + o.size - pre.size
  · rw [if_pos hi, heq (pre.size + i) (by rw [Array.size_append]; omega), Array.getElem?_append_right (by omega)]
    congr 1
    omega
  · rw [if_neg hi, Array.getElem?_eq_none (by omega)]

theorem exitUndo_of_empty {st : Int} {c : Ctx} (h : c.r.numBits = 0) : exitUndo st c = 0 := by
  unfold exitUndo
  rw [h]
  split <;> simp

theorem inflateSpec_inv {pre : Array UInt8} {maxDist : Nat} {data : Array UInt8} {startBit : Nat} {res : Inflated}
    (h : inflateSpec pre maxDist data startBit = .accept res) :
    inflateBlocks pre maxDist data (fuelFor data) startBit #[] #[] = .accept (res.bitsUsed, res.out, res.blocks) := by
  unfold inflateSpec at h
  split at h
  · simp only [Verdict.accept.injEq] at h
    rw [← h]; assumption
  all_goals exact absurd h (by simp)

theorem OutEq.extract (out : Array UInt8) (outPos : Nat) :
    OutEq out (out.extract 0 outPos ++ #[]) := by
  intro i hi
  simp only [Array.append_empty, Array.size_extract, Nat.sub_zero] at hi ⊢
  rw [Array.getElem?_extract]
  have : i < min outPos out.size - 0 := by omega
  simp only [this, ↓reduceIte, Nat.zero_add]

theorem micro_start_raw (hs : c.r.state = sStart) (hz : hasFlag e.flags fParseZlib = false) :
    ∃ c1, step e c outA = .cont c1 outA ∧ c1.r.state = sReadBlockHeader ∧ c1.r.numBits = 0 ∧ c1.r.bitBuf = 0 ∧
      c1.inPos = c.inPos ∧ c1.outPos = c.outPos ∧ c1.r.rawHeader = c.r.rawHeader ∧
      c1.r.tableSizes = c.r.tableSizes ∧ c1.r.lenCodes = c.r.lenCodes := by
  rw [step_Start hs]
  unfold stStart
  simp only [hz, Bool.false_eq_true, ↓reduceIte]
  exact ⟨_, rfl, rfl, rfl, rfl, rfl, rfl, rfl, rfl, rfl⟩

theorem sim_start_raw {r : Regs} {out : Array UInt8} {outPos : Nat} (hstart : r.state = sStart)
    (hshape : r.rawHeader.size = 4 ∧ r.tableSizes.size = 3 ∧ r.lenCodes.size = 512)
    (hz : hasFlag e.flags fParseZlib = false) (hpos : outPos ≤ out.size) (hsz : out.size = e.outLen) :
    ∃ c1, Reaches e { r := r, inPos := 0, outPos := outPos } out c1 out ∧ c1.r.state = sReadBlockHeader ∧
      Sim e c1 out 0 (out.extract 0 outPos ++ #[]) ∧ Shape c1 := by
  obtain ⟨c1, st1, hs1, hn1, hb1, hi1, ho1, rh1, ts1, lc1⟩ :=
    micro_start_raw (e := e) (c := { r := r, inPos := 0, outPos := outPos }) (outA := out) hstart hz
  have hrep := Rep.of_empty (data := e.inp) (c := c1) (by rw [hi1]; exact Nat.zero_le _) hn1 hb1
  rw [hi1] at hrep
  exact ⟨c1, Reaches.of_step st1, hs1,
    ⟨hrep, by rw [hn1]; decide, by rw [ho1, Array.append_empty, size_extract_prefix hpos],
      OutEq.extract out outPos, hsz⟩,
    by rw [rh1]; exact hshape.1, by rw [ts1]; exact hshape.2.1, by rw [lc1]; exact hshape.2.2⟩

/-- The automaton's path over a raw stream that the reference decoder accepts and the window has room
    for: from `Start` to `DoneForever`, cursor at ⌈bits used / 8⌉, the plaintext behind `outPos`. -/
theorem sim_raw {r : Regs} {out : Array UInt8} {outPos maxDist : Nat} {res : Inflated} (hstart : r.state = sStart)
    (hshape : r.rawHeader.size = 4 ∧ r.tableSizes.size = 3 ∧ r.lenCodes.size = 512)
    (hflat : e.ring = false) (hend : e.outEnd ≤ e.outLen) (hz : hasFlag e.flags fParseZlib = false)
    (hstop : hasFlag e.flags fStopOnBlockBoundary = false) (hpos : outPos ≤ out.size) (hsz : out.size = e.outLen)
    (hspec : inflateSpec (out.extract 0 outPos) maxDist e.inp 0 = .accept res)
    (hroom : outPos + res.out.size ≤ e.outEnd) :
    ∃ cD outB, Reaches e { r := r, inPos := 0, outPos := outPos } out cD outB ∧ cD.r.state = sDoneForever ∧
      cD.r.numBits = 0 ∧ cD.inPos = (res.bitsUsed + 7) / 8 ∧ cD.outPos = (out.extract 0 outPos ++ res.out).size ∧
      OutEq outB (out.extract 0 outPos ++ res.out) := by
  obtain ⟨c1, r1, hs1, hsim1, hsh1⟩ := sim_start_raw (e := e) hstart hshape hz hpos hsz
  obtain ⟨cB, outB, rB, hsB, hsimB, hfB, _⟩ :=
    sim_blocks hflat hend hstop _ maxDist _ 0 #[] #[] _ c1 out (inflateSpec_inv hspec) hs1 hsim1 hsh1
      (by rw [size_extract_prefix hpos]; exact hroom)
  obtain ⟨cD, stD, hsD, hnD, hiD, hoD⟩ := micro_blockDone_final (e := e) (outA := outB) hsB hfB hsimB.nb8 hz
  exact ⟨cD, outB, r1.trans (rB.trans (Reaches.of_step stD)), hsD, hnD, hiD.trans (hsimB.rep.inPos_eq hsimB.nb8),
    hoD.trans hsimB.outPos, hsimB.outEq⟩

/-- ONE-SHOT REFINEMENT, raw DEFLATE, flat output buffer. -/
theorem refine_raw_flat (r : Regs) (inp out : Array UInt8) (outPos budget flags maxDist : Nat) (res : Inflated)
    (hstart : r.state = sStart) (hshape : r.rawHeader.size = 4 ∧ r.tableSizes.size = 3 ∧ r.lenCodes.size = 512)
    (hflat : hasFlag flags fNonWrapping = true) (hz : hasFlag flags fParseZlib = false)
    (hstop : hasFlag flags fStopOnBlockBoundary = false) (hpos : outPos ≤ out.size)
    (hspec : inflateSpec (out.extract 0 outPos) maxDist inp 0 = .accept res)
    (hroom : outPos + res.out.size ≤ min (outPos + budget) out.size) :
    (decompress r inp out outPos budget flags).status = stDone ∧
    (decompress r inp out outPos budget flags).written = res.out.size ∧
    (decompress r inp out outPos budget flags).consumed = (res.bitsUsed + 7) / 8 ∧
    (∀ i, i < res.out.size → (decompress r inp out outPos budget flags).out[outPos + i]? = res.out[i]?) := by
  have hpre := size_extract_prefix hpos
  obtain ⟨cD, outB, reach, hsD, hnD, hiD, hoD, heq⟩ := sim_raw (e := callEnv inp out outPos budget flags) hstart hshape
    (callEnv_ring hflat) callEnv_outEnd_le hz hstop hpos rfl hspec hroom
  rw [decompress_of_reaches (badGeometry_flat hflat hpos) reach (step_DoneForever hsD)]
  have hbytes := epilogue_bytes (flags := flags) (outEnd := min (outPos + budget) out.size) (st := stDone) hpre hoD heq
  exact ⟨epilogue_status_raw_done hz, hbytes.1, by rw [epilogue_consumed, exitUndo_of_empty hnD, hiD]; rfl, hbytes.2⟩

end Model.Core
