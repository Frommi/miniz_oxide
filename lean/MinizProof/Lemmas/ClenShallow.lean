/-
A canonical code built from code lengths that are all at most 7 (the code-length alphabet: its
lengths are 3-bit fields) is decided by 7 bits: the counting walk of the decoder model never asks
for an eighth bit. Used by the bit-buffer discipline (`Lemmas/CoreBnd`): a starved code-length
decode leaves at most 6 bits behind.
-/
import MinizProof.Model.Core
import MinizProof.Lemmas.SpecHuffman
namespace Model.Core
open Spec

theorem decodeBufAux_succ (c : Code) (buf n fuel len used code first index : Nat) :
    decodeBufAux c buf n (fuel + 1) len used code first index =
      if index ≥ c.syms.size then .invalid else if used ≥ n then .short
      else if code + buf >>> used % 2 < first + c.count.getD len 0 then
        .sym (c.syms.getD (index + (code + buf >>> used % 2 - first)) 0) (used + 1)
      else decodeBufAux c buf n fuel (len + 1) (used + 1) (2 * (code + buf >>> used % 2)) (2 * (first + c.count.getD len 0))
        (index + c.count.getD len 0) := rfl

theorem decodeBufAux_shallow (lens : Array Nat) (buf m : Nat) (hm : 7 ≤ m) :
    ∀ (fuel len used code first index : Nat), used + 1 = len → len ≤ 8 →
    (mkCode lens).syms.size ≤ index + sumCnt lens len (8 - len) →
    decodeBufAux (mkCode lens) buf m fuel len used code first index ≠ .short := by
  intro fuel
  induction fuel with
  | zero => intro len used code first index _ _ _; nofun
  | succ fuel ih =>
    intro len used code first index hu hl hs
    rw [decodeBufAux_succ]
    by_cases h1 : index ≥ (mkCode lens).syms.size
    · rw [if_pos h1]; nofun
    · -- codes are left, so this is one of the levels 1..7 and its bit is there
      have hlen : len ≠ 8 := fun h8 => h1 (by rw [h8] at hs; exact hs)
      rw [if_neg h1, if_neg (by omega)]
      split
      · nofun
      · refine ih _ _ _ _ _ (by omega) (by omega) ?_
        rw [show 8 - len = (8 - (len + 1)) + 1 by omega] at hs
        rw [show (mkCode lens).count.getD len 0 = cntEq lens len from countLens_getD lens len (by omega), Nat.add_assoc]
        exact hs

theorem decodeBuf_shallow (lens : Array Nat) (h7 : ∀ i, lens.getD i 0 ≤ 7) (buf m : Nat) (hm : 7 ≤ m) :
    decodeBuf (mkCode lens) buf m ≠ .short := by
  refine decodeBufAux_shallow lens buf m hm 15 1 0 0 0 0 rfl (by omega) ?_
  rw [mkCode_syms_size, sumCnt_split lens 7 1 8,
    sumCnt_zero lens 8 (1 + 7) fun j _ => cntEq_zero_of_le h7 (show 7 < 1 + 7 + j by omega),
    Nat.add_zero, Nat.zero_add]
  exact Nat.le_refl _

end Model.Core
