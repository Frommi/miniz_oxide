/-
Encoder specification, dynamic-Huffman blocks: HLIT / HDIST / HCLEN, the code-length code's lengths
in the RFC's order, the literal/length and distance code lengths written with the code-length
alphabet (lengths 0..15, repeat-previous 16, zero runs 17 / 18 — ANY such sequence whose expansion is
the wanted list of lengths), then the tokens. The reference decoder reads the header back to exactly
those code lengths and the block to the expansion of its tokens. Helper lemmas for Props/C10.
-/
import MinizProof.Lemmas.EncBlocks
namespace Model.Core
open Spec

/-- a symbol of the code-length alphabet as written, with the value of its extra bits -/
inductive CSym
  | len (l : Nat)
  | rep (r : Nat)
  | z3 (r : Nat)
  | z7 (r : Nat)

def CSym.sym : CSym → Nat
  | .len l => l | .rep _ => 16 | .z3 _ => 17 | .z7 _ => 18

def CSym.extra : CSym → List Nat
  | .len _ => [] | .rep r => bitsLE r 2 | .z3 r => bitsLE r 3 | .z7 r => bitsLE r 7

/-- what the symbol appends to the list of code lengths read so far -/
def CSym.apply (acc : Array Nat) : CSym → Array Nat
  | .len l => acc.push l
  | .rep r => acc ++ Array.replicate (3 + r) (acc.getD (acc.size - 1) 0)
  | .z3 r => acc ++ Array.replicate (3 + r) 0
  | .z7 r => acc ++ Array.replicate (11 + r) 0

def CSym.Ok (clens : Array Nat) (acc : Array Nat) : CSym → Prop
  | .len l => l < 16 ∧ l < clens.size ∧ 1 ≤ clens.getD l 0
  | .rep r => r < 4 ∧ acc.size ≠ 0 ∧ 16 < clens.size ∧ 1 ≤ clens.getD 16 0
  | .z3 r => r < 8 ∧ 17 < clens.size ∧ 1 ≤ clens.getD 17 0
  | .z7 r => r < 128 ∧ 18 < clens.size ∧ 1 ≤ clens.getD 18 0

def encCSym (clens : Array Nat) (c : CSym) : List Nat := codeBits clens c.sym ++ c.extra

theorem readLenStep_enc (clens : Array Nat) (hc : CodeOk clens) (data : Array UInt8) (pos : Nat) (acc : Array Nat)
    (c : CSym) (hok : c.Ok clens acc) (h : HasBits data pos (encCSym clens c)) :
    readLenStep (mkCode clens) data pos acc = .more (pos + (encCSym clens c).length) (c.apply acc) := by
  obtain ⟨ha, hb⟩ := HasBits.append (a := codeBits clens c.sym) (b := c.extra) h
  rw [codeBits_length] at hb
  have hsym : c.sym < clens.size ∧ 1 ≤ clens.getD c.sym 0 := by
    cases c with
    | len l => exact hok.2
    | rep r => exact hok.2.2
    | z3 r => exact hok.2
    | z7 r => exact hok.2
  rw [readLenStep, decodeSym_of_hasBits clens hc data pos c.sym hsym.1 hsym.2 ha]
  cases c with
  | len l =>
    dsimp only [CSym.sym]
    rw [if_pos hok.1]
    simp [encCSym, CSym.sym, CSym.extra, CSym.apply, codeBits_length]
  | rep r =>
    dsimp only [CSym.sym, CSym.extra] at hb ⊢
    rw [if_neg (by decide), if_pos rfl, if_neg hok.2.1, bitsAt_of_hasBits data 2 _ r (by have := hok.1; omega) hb]
    simp [encCSym, CSym.sym, CSym.extra, CSym.apply, codeBits_length, bitsLE_length, Nat.add_assoc]
  | z3 r =>
    dsimp only [CSym.sym, CSym.extra] at hb ⊢
    rw [if_neg (by decide), if_neg (by decide), if_pos rfl, bitsAt_of_hasBits data 3 _ r (by have := hok.1; omega) hb]
    simp [encCSym, CSym.sym, CSym.extra, CSym.apply, codeBits_length, bitsLE_length, Nat.add_assoc]
  | z7 r =>
    dsimp only [CSym.sym, CSym.extra] at hb ⊢
    rw [if_neg (by decide), if_neg (by decide), if_neg (by decide), bitsAt_of_hasBits data 7 _ r (by have := hok.1; omega) hb]
    simp [encCSym, CSym.sym, CSym.extra, CSym.apply, codeBits_length, bitsLE_length, Nat.add_assoc]

def applyAll : Array Nat → List CSym → Array Nat
  | acc, [] => acc
  | acc, c :: cs => applyAll (c.apply acc) cs

/-- the sequence fills the table exactly: never past `total`, done exactly at `total` -/
def CSymsOk (clens : Array Nat) (total : Nat) : Array Nat → List CSym → Prop
  | acc, [] => acc.size = total
  | acc, c :: cs => acc.size < total ∧ c.Ok clens acc ∧ CSymsOk clens total (c.apply acc) cs

def encCSyms (clens : Array Nat) : List CSym → List Nat
  | [] => []
  | c :: cs => encCSym clens c ++ encCSyms clens cs

theorem readLens_enc (clens : Array Nat) (hc : CodeOk clens) (data : Array UInt8) (total : Nat) :
    ∀ (cs : List CSym) (fuel pos : Nat) (acc : Array Nat), cs.length < fuel → CSymsOk clens total acc cs →
    HasBits data pos (encCSyms clens cs) →
    readLens (mkCode clens) data total fuel pos acc = .accept (pos + (encCSyms clens cs).length, applyAll acc cs) := by
  intro cs
  induction cs with
  | nil =>
    intro fuel pos acc hf hok _
    obtain ⟨f, rfl⟩ : ∃ f, fuel = f + 1 := ⟨fuel - 1, by simp at hf; omega⟩
    have hok' : acc.size = total := hok
    unfold readLens
    rw [if_pos hok']
    simp [encCSyms, applyAll]
  | cons c cs ih =>
    intro fuel pos acc hf hok h
    obtain ⟨hlt, hcok, hrest⟩ := hok
    obtain ⟨f, rfl⟩ : ∃ f, fuel = f + 1 := ⟨fuel - 1, by simp at hf; omega⟩
    obtain ⟨ha, hb⟩ := HasBits.append (a := encCSym clens c) (b := encCSyms clens cs) h
    unfold readLens
    rw [if_neg (by omega), if_neg (by omega), readLenStep_enc clens hc data pos acc c hcok ha]
    dsimp only
    rw [ih f _ _ (by simp at hf; omega) hrest hb]
    simp [encCSyms, applyAll, Nat.add_assoc]

/-- the code-length code's lengths as the decoder assembles them from the 3-bit fields -/
def clensFold : List Nat → List Nat → Array Nat → Array Nat
  | o :: os, v :: vs, acc => clensFold os vs (acc.setIfInBounds o v)
  | _, _, acc => acc

def clenFieldBits : List Nat → List Nat
  | [] => []
  | v :: vs => bitsLE v 3 ++ clenFieldBits vs

theorem clenFieldBits_length : ∀ vs : List Nat, (clenFieldBits vs).length = 3 * vs.length := by
  intro vs
  induction vs with
  | nil => rfl
  | cons v vs ih => simp [clenFieldBits, bitsLE_length, ih]; omega

theorem readClens_enc (data : Array UInt8) : ∀ (vs os : List Nat) (pos : Nat) (acc : Array Nat),
    (∀ v ∈ vs, v < 8) → vs.length ≤ os.length → HasBits data pos (clenFieldBits vs) →
    readClens data vs.length pos os acc = some (pos + 3 * vs.length, clensFold os vs acc) := by
  intro vs
  induction vs with
  | nil =>
    intro os pos acc _ _ _
    cases os <;> simp [readClens, clensFold]
  | cons v vs ih =>
    intro os pos acc hv hl h
    cases os with
    | nil => simp at hl
    | cons o os =>
      obtain ⟨ha, hb⟩ := HasBits.append (a := bitsLE v 3) (b := clenFieldBits vs) h
      rw [bitsLE_length] at hb
      show readClens data (vs.length + 1) pos (o :: os) acc = _
      unfold readClens
      rw [bitsAt_of_hasBits data 3 pos v (by have := hv v (by simp); omega) ha]
      dsimp only
      rw [ih os (pos + 3) _ (fun u hu => hv u (by simp [hu])) (by simp at hl; omega) hb]
      simp only [clensFold, List.length_cons]
      congr 2
      omega

theorem csyms_length_le (clens : Array Nat) (total : Nat) : ∀ (cs : List CSym) (acc : Array Nat), CSymsOk clens total acc cs →
    cs.length ≤ (encCSyms clens cs).length := by
  intro cs
  induction cs with
  | nil => intro acc _; simp
  | cons c cs ih =>
    intro acc hok
    obtain ⟨_, hcok, hrest⟩ := hok
    have h1 : 1 ≤ (encCSym clens c).length := by
      unfold encCSym
      rw [List.length_append, codeBits_length]
      cases c with
      | len l => have := hcok.2.2; simp only [CSym.sym]; omega
      | rep r => have := hcok.2.2.2; simp only [CSym.sym]; omega
      | z3 r => have := hcok.2.2; simp only [CSym.sym]; omega
      | z7 r => have := hcok.2.2; simp only [CSym.sym]; omega
    have := ih _ hrest
    show (c :: cs).length ≤ (encCSym clens c ++ encCSyms clens cs).length
    rw [List.length_append, List.length_cons]
    omega

/-- header of a dynamic block: HLIT, HDIST, the 3-bit fields of the code-length code (HCLEN + 4 of
    them), the code-length symbols -/
structure DynHdr where
  hlit  : Nat
  hdist : Nat
  cvals : List Nat
  csyms : List CSym

def DynHdr.clens (h : DynHdr) : Array Nat := clensFold clenOrder h.cvals (Array.replicate 19 0)
def DynHdr.lens (h : DynHdr) : Array Nat := applyAll #[] h.csyms
def DynHdr.litLens (h : DynHdr) : Array Nat := h.lens.extract 0 (h.hlit + 257)
def DynHdr.distLens (h : DynHdr) : Array Nat := h.lens.extract (h.hlit + 257) (h.hlit + 257 + (h.hdist + 1))

structure DynHdr.Ok (h : DynHdr) : Prop where
  hlit    : h.hlit ≤ 29
  hdist   : h.hdist ≤ 29
  ncl     : 4 ≤ h.cvals.length ∧ h.cvals.length ≤ 19
  cv      : ∀ v ∈ h.cvals, v < 8
  clenOk  : codeValid .clen h.clens = true
  csOk    : CSymsOk h.clens (h.hlit + 257 + (h.hdist + 1)) #[] h.csyms
  litOk   : codeValid .litlen h.litLens = true
  distOk  : codeValid .dist h.distLens = true
  eob     : 256 < h.litLens.size ∧ 1 ≤ h.litLens.getD 256 0

def encDynamic (final : Bool) (h : DynHdr) (toks : List SymTok) : EncBlock :=
  { bits := fun _ => bitsLE ((if final then 1 else 0) + 4) 3 ++ (bitsLE h.hlit 5 ++ (bitsLE h.hdist 5 ++ (bitsLE (h.cvals.length - 4) 4 ++
      (clenFieldBits h.cvals ++ (encCSyms h.clens h.csyms ++ encToks h.litLens h.distLens toks))))),
    final := final, toks := toks, litLens := h.litLens, distLens := h.distLens }

theorem encDynamic_decodes (pre : Array UInt8) (maxDist : Nat) (final : Bool) (h : DynHdr) (hok : h.Ok) (toks : List SymTok) :
    (encDynamic final h toks).Decodes pre maxDist := by
  intro data fuel pos out hfuel htok hb
  dsimp only [encDynamic] at htok
  obtain ⟨hlit, hdist, hncl, hcv, hclv, hcs, hlv, hdv, heob⟩ := hok
  obtain ⟨b0, hb⟩ := HasBits.append (a := bitsLE ((if final then 1 else 0) + 4) 3) hb
  obtain ⟨b1, hb⟩ := hb.append
  obtain ⟨b2, hb⟩ := hb.append
  obtain ⟨b3, hb⟩ := hb.append
  obtain ⟨b4, hb⟩ := hb.append
  obtain ⟨b5, b6⟩ := hb.append
  simp only [bitsLE_length, clenFieldBits_length] at b1 b2 b3 b4 b5 b6
  have hhdr := bitsAt_of_hasBits data 3 pos ((if final then 1 else 0) + 4) (by cases final <;> decide) b0
  have h1 := bitsAt_of_hasBits data 5 _ h.hlit (by omega) b1
  have h2 := bitsAt_of_hasBits data 5 _ h.hdist (by omega) b2
  have h3 := bitsAt_of_hasBits data 4 _ (h.cvals.length - 4) (by omega) b3
  have h4 := readClens_enc data h.cvals clenOrder (pos + 3 + 5 + 5 + 4) (Array.replicate 19 0) hcv hncl.2 b4
  have hfit := toks_fit heob.2 toks _ out htok b6
  have hclen := csyms_length_le h.clens _ h.csyms #[] hcs
  have h5 := readLens_enc h.clens (codeValid_ok hclv) data (h.hlit + 257 + (h.hdist + 1)) h.csyms fuel _ #[] (by omega) hcs b5
  have h6 := decodeTokens_enc h.litLens h.distLens (codeValid_ok hlv) (codeValid_ok hdv) heob pre maxDist data
    toks fuel _ out #[] (by omega) htok b6
  -- the decoder's own expressions for the three code length sets
  simp only [DynHdr.clens, DynHdr.litLens, DynHdr.distLens, DynHdr.lens] at hclv hlv hdv h5 h6
  unfold inflateBlock
  rw [hhdr]
  have hbt : ((if final then 1 else 0) + 4) / 2 = 2 := by cases final <;> rfl
  simp only [hbt, ↓reduceIte, Nat.succ_ne_self]
  rw [show pos + 3 + 10 = pos + 3 + 5 + 5 by omega, h1, h2, h3]
  dsimp only
  have hts : ¬ ((decide (h.hlit + 257 > 286) || decide (h.hdist + 1 > 30)) = true) := by
    simp only [Bool.or_eq_true, decide_eq_true_eq]; omega
  rw [if_neg hts, show pos + 3 + 14 = pos + 3 + 5 + 5 + 4 by omega, show h.cvals.length - 4 + 4 = h.cvals.length by omega, h4]
  dsimp only
  rw [hclv]
  simp only [Bool.not_true, Bool.false_eq_true, ↓reduceIte]
  rw [h5]
  dsimp only
  rw [hlv, hdv]
  simp only [Bool.not_true, Bool.false_eq_true, ↓reduceIte]
  rw [h6]
  dsimp only
  have e : pos + 3 + 5 + 5 + 4 + 3 * h.cvals.length + (encCSyms h.clens h.csyms).length + (encToks h.litLens h.distLens toks).length =
      pos + ((encDynamic final h toks).bits pos).length := by
    simp only [encDynamic, List.length_append, bitsLE_length, clenFieldBits_length]; omega
  simp only [DynHdr.clens, DynHdr.litLens, DynHdr.distLens, DynHdr.lens] at e
  rw [e]
  refine ⟨_, rfl, ?_⟩
  cases final <;> rfl

end Model.Core
