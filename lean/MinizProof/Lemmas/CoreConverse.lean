/-
The converse of the refinement: where the specification does NOT accept (it rejects, or the data
ends first) or accepts more than the granted window holds, the decoder model ends in a matching
way — a failure, a starved exit, a full window — and never in `Done`. The forward lemmas (`sim_*`)
carry the model along the accepted part of the stream; this file adds, for every way the
specification stops, the model's matching stop. All of it is stated for an arbitrary set `P` of
allowed final statuses (`EndsIn P`: every run from here that ends, ends in `P`; closed under `Reaches`),
so that "never `Done`" and "always has-more-output" are two instances. What `P` has to allow is asked for
only where it is needed: `P stHasMoreOutput` throughout, end-of-input and `Failed` (`Refusal`) only in the
cases where the specification does not accept — `Decided (Refusal …) (too big) verdict` says both at once.
The walk follows the specification's own structure: `tok_ends` / `tokens_ends`, `stored_ends`, the stages
of the dynamic header, `block_ends` (by `Spec.inflateBlock_cases`), `blocks_ends`, and the two statements
everything else uses, `call_ends_raw` and `call_ends_zlib` (`done_raw_flat` / `done_zlib_flat` here and
`Lemmas/CoreFull` are their instances). Helper lemmas for Props/C04, C08.
-/
import MinizProof.Lemmas.CoreSound
import MinizProof.Lemmas.CoreZlib
import MinizProof.Lemmas.CoreCalls
import MinizProof.Lemmas.SpecFuel
namespace Model.Core
open Spec

/-- Every run from `(c, o)` that ends, ends with a status satisfying `P`. -/
def EndsIn (P : Int → Prop) (e : Env) (c : Ctx) (o : Array UInt8) : Prop :=
  ∀ f, (run e f c o).1 = stModelError ∨ P (run e f c o).1

variable {P : Int → Prop} {e : Env} {c : Ctx} {outA : Array UInt8}

theorem EndsIn.of_fin {c' : Ctx} {o' : Array UInt8} {st : Int} (h : step e c outA = .fin st c' o') (hP : P st) :
    EndsIn P e c outA := by
  intro f
  cases f with
  | zero => exact .inl rfl
  | succ f => rw [run, h]; exact .inr hP

theorem EndsIn.of_reaches {c' : Ctx} {o' : Array UInt8} (h : Reaches e c outA c' o') (hs : EndsIn P e c' o') :
    EndsIn P e c outA := by
  intro f
  by_cases hm : (run e f c outA).1 = stModelError
  · exact .inl hm
  · obtain ⟨k, hk⟩ := h
    rw [← run_fuel_mono e f c outA hm (f + k) (by omega), hk]
    exact hs f

theorem EndsIn.of_step {c' : Ctx} {o' : Array UInt8} (h : step e c outA = .cont c' o') (hs : EndsIn P e c' o') :
    EndsIn P e c outA :=
  .of_reaches (.of_step h) hs

theorem starved_step {q : Ctx × Option Nat} {k : Ctx → Nat → Step} (hq : q.2 = none) :
    (match q with
      | (c, none) => Step.fin e.eoi c outA
      | (c, some v) => k c v) = .fin e.eoi q.1 outA := by
  obtain ⟨c1, o⟩ := q
  subst hq
  rfl

theorem EndsIn.of_starved {q : Ctx × Option Nat} {k : Ctx → Nat → Step}
    (h : step e c outA = match q with
      | (c, none) => .fin e.eoi c outA
      | (c, some v) => k c v)
    (hq : q.2 = none) (hE : P e.eoi) : EndsIn P e c outA :=
  .of_fin (h.trans (starved_step hq)) hE

theorem EndsIn.of_failed (hf : sDoneForever < c.r.state) (hX : P stFailed) : EndsIn P e c outA :=
  .of_fin (stepAt_failed _ hf e c outA) hX

theorem EndsIn.of_failure {c' : Ctx} {o' : Array UInt8} {s : Nat} (h : step e c outA = .cont (setState c' s) o')
    (hf : sDoneForever < s) (hX : P stFailed) : EndsIn P e c outA :=
  .of_step h (.of_failed hf hX)

/-! ### Reads that fail -/

theorem bitsAt_none_short (data : Array UInt8) : ∀ (n pos : Nat), bitsAt data pos n = none → 8 * data.size < pos + n := by
  intro n
  induction n with
  | zero => intro pos h; simp [bitsAt] at h
  | succ n ih =>
    intro pos h
    unfold bitsAt at h
    cases hb : bitAt data pos with
    | none =>
      unfold bitAt at hb
      cases hg : data[pos / 8]? with
      | none =>
        have := Array.getElem?_eq_none_iff.mp hg
        omega
      | some b => simp [hg] at hb
    | some b =>
      cases hr : bitsAt data (pos + 1) n with
      | none => have := ih _ hr; omega
      | some r => simp [hb, hr] at h

theorem readBits_short {data : Array UInt8} {c : Ctx} {pos n : Nat} (hr : Rep data c pos)
    (h : bitsAt data pos n = none) : (readBits data n c).2 = none := by
  have hshort := bitsAt_none_short data n pos h
  obtain ⟨hok, _, h3⟩ := readBits_spec data n c hr.inLe
  cases hv : (readBits data n c).2 with
  | none => rfl
  | some v =>
    have := h3 v hv
    have hp := hr.posEq
    have hhi := hok.inHi
    have hlo := hok.inLo
    omega

theorem decodeBufAux_of_nosym (code : Code) (data : Array UInt8) (buf n p0 : Nat)
    (hbits : ∀ i, i < n → bitAt data (p0 + i) = some (bit buf i)) :
    ∀ (fuel len used cd first index : Nat),
    (decodeSymAux code data fuel len (p0 + used) cd first index = .short →
      decodeBufAux code buf n fuel len used cd first index = .short) ∧
    (decodeSymAux code data fuel len (p0 + used) cd first index = .invalid →
      decodeBufAux code buf n fuel len used cd first index = .invalid ∨
      decodeBufAux code buf n fuel len used cd first index = .short) := by
  intro fuel
  induction fuel with
  | zero =>
    intro len used cd first index
    exact ⟨fun h => by simp [decodeSymAux] at h, fun _ => .inl rfl⟩
  | succ fuel ih =>
    intro len used cd first index
    unfold decodeSymAux decodeBufAux
    by_cases hidx : index ≥ code.syms.size
    · simp only [hidx, ↓reduceIte]
      exact ⟨fun h => by simp at h, fun _ => .inl trivial⟩
    · simp only [hidx, ↓reduceIte]
      by_cases hu : used ≥ n
      · simp only [hu, ↓reduceIte]
        exact ⟨fun _ => trivial, fun _ => .inr trivial⟩
      · simp only [hu, ↓reduceIte]
        rw [hbits used (by omega)]
        have hbit : buf >>> used % 2 = bit buf used := rfl
        simp only [hbit]
        by_cases hlt : cd + bit buf used < first + code.count.getD len 0
        · simp only [hlt, ↓reduceIte]
          exact ⟨fun h => by simp at h, fun h => by simp at h⟩
        · simp only [hlt, ↓reduceIte]
          exact ih _ (used + 1) _ _ _

/-- `decodeHuff` where the specification's code walk finds no symbol: starved, or — on a bit pattern
    that no code word of an incomplete code matches — the filler symbol 286. -/
theorem decodeHuff_nosym {data : Array UInt8} {code : Code} {c : Ctx} {pos : Nat} (hr : Rep data c pos)
    (hs : decodeSym code data pos = .short ∨ decodeSym code data pos = .invalid) :
    (decodeHuff data code c).2 = none ∨ decodeSym code data pos = .invalid ∧ (decodeHuff data code c).2 = some 286 := by
  rw [decodeHuff_eq]
  refine pullBits_ind (P := fun c r => Rep data c pos → r.2 = none ∨ decodeSym code data pos = .invalid ∧ r.2 = some 286)
    (fun c n v hd hr => ?_) (fun _ _ _ _ => .inl rfl) (fun c b r _ hb ih hr => ih (hr.pull hb)) c hr
  have hb := decodeBufAux_of_nosym code data c.r.bitBuf c.r.numBits pos hr.bits 15 1 0 0 0 0
  have hbuf : decodeBuf code c.r.bitBuf c.r.numBits = .short ∨
      decodeSym code data pos = .invalid ∧ decodeBuf code c.r.bitBuf c.r.numBits = .invalid :=
    hs.elim (fun h => .inl (hb.1 h)) fun h => (hb.2 h).elim (fun h' => .inr ⟨h, h'⟩) .inl
  rcases huffDec_cases hd with hsym | ⟨hinv, _, _, hv⟩
  · exact hbuf.elim (fun h => nomatch h.symm.trans hsym) fun h => nomatch h.2.symm.trans hsym
  · exact hbuf.elim (fun h => nomatch h.symm.trans hinv) fun h => .inr ⟨h.1, by rw [hv]⟩

/-! ### Transitions into failure states -/

def FailsTo (e : Env) (c : Ctx) (o : Array UInt8) (f : Nat) : Prop :=
  ∃ c', step e c o = .cont (setState c' f) o

theorem FailsTo.state {f : Nat} (h : FailsTo e c outA f) : ∃ c', step e c outA = .cont c' outA ∧ c'.r.state = f :=
  h.elim fun _ hc => ⟨_, hc, rfl⟩

theorem FailsTo.ends {f : Nat} (h : FailsTo e c outA f) (hX : P stFailed) (hf : sDoneForever < f := by decide) :
    EndsIn P e c outA :=
  h.elim fun _ hc => .of_failure hc hf hX

theorem fails_blockType3 {c1 : Ctx} {bits : Nat} (hs : c.r.state = sReadBlockHeader)
    (hr : readBits e.inp 3 c = (c1, some bits)) (h3 : bits / 2 % 4 = 3) : FailsTo e c outA sBlockTypeUnexpected := by
  unfold FailsTo
  rw [step_ReadBlockHeader hs]; unfold stReadBlockHeader; rw [hr]
  dsimp only
  rw [if_neg (by omega), if_neg (by omega), if_neg (by omega)]
  exact ⟨_, rfl⟩

theorem fails_tableSizes (hs : c.r.state = sReadTableSizes) (hc : ¬ c.r.counter < 3)
    (hbad : ¬ (c.r.tableSizes.getD 0 0 ≤ 286 ∧ c.r.tableSizes.getD 1 0 ≤ 30)) :
    FailsTo e c outA sBadDistOrLiteralTableLength := by
  unfold FailsTo
  rw [step_ReadTableSizes hs]; unfold stReadTableSizes
  simp only [hc, ↓reduceIte, hbad]
  exact ⟨_, rfl⟩

/-- over-subscribed or incomplete code-length code -/
theorem fails_clenCode (hs : c.r.state = sReadHufflenTableCodeSize) (hc : ¬ c.r.counter < c.r.tableSizes.getD 2 0)
    (hbt : c.r.blockType = 2) (hbad : codeValid .clen c.r.clenLens = false) : FailsTo e c outA sBadTotalSymbols := by
  unfold FailsTo
  rw [step_ReadHufflenTableCodeSize hs]; unfold stReadHufflenTableCodeSize
  simp only [hc, ↓reduceIte]
  unfold initTree
  simp only [hbt, ↓reduceIte, hbad, Bool.false_eq_true]
  exact ⟨_, rfl⟩

/-- over-subscribed or incomplete literal/length or distance code (other than the ≤ 1-bit case) -/
theorem fails_litlenDistCode (hs : c.r.state = sReadLitlenDistTablesCodeSize)
    (hc : c.r.counter = c.r.tableSizes.getD 0 0 + c.r.tableSizes.getD 1 0) (hbt : c.r.blockType = 2)
    (hbad : codeValid .litlen (c.r.lenCodes.extract 0 (c.r.tableSizes.getD 0 0)) = false ∨
            codeValid .dist (c.r.lenCodes.extract (c.r.tableSizes.getD 0 0)
              (c.r.tableSizes.getD 0 0 + c.r.tableSizes.getD 1 0)) = false) :
    FailsTo e c outA sBadTotalSymbols := by
  unfold FailsTo
  rw [step_ReadLitlenDistTablesCodeSize hs]; unfold stReadLitlenDistTablesCodeSize
  have h1 : ¬ c.r.counter < c.r.tableSizes.getD 0 0 + c.r.tableSizes.getD 1 0 := by omega
  have h2 : ¬ c.r.counter ≠ c.r.tableSizes.getD 0 0 + c.r.tableSizes.getD 1 0 := by omega
  simp only [h1, h2, ↓reduceIte]
  unfold initTree
  simp only [hbt, Nat.add_one_sub_one, Nat.reduceEqDiff, ↓reduceIte]
  cases hd : codeValid .dist (c.r.lenCodes.extract (c.r.tableSizes.getD 0 0)
      (c.r.tableSizes.getD 0 0 + c.r.tableSizes.getD 1 0)) with
  | false => exact ⟨_, rfl⟩
  | true =>
    have hl := hbad.resolve_right (by rw [hd]; decide)
    simp only [hl, Bool.not_true, Bool.false_eq_true, ↓reduceIte, Bool.not_false]
    exact ⟨_, rfl⟩

/-- more code lengths than HLIT + HDIST announced -/
theorem fails_lengthOverrun (hs : c.r.state = sReadLitlenDistTablesCodeSize)
    (hc : c.r.counter > c.r.tableSizes.getD 0 0 + c.r.tableSizes.getD 1 0) : FailsTo e c outA sBadCodeSizeSum := by
  unfold FailsTo
  rw [step_ReadLitlenDistTablesCodeSize hs]; unfold stReadLitlenDistTablesCodeSize
  have h1 : ¬ c.r.counter < c.r.tableSizes.getD 0 0 + c.r.tableSizes.getD 1 0 := by omega
  have h2 : c.r.counter ≠ c.r.tableSizes.getD 0 0 + c.r.tableSizes.getD 1 0 := by omega
  simp only [h1, h2, ↓reduceIte, ne_eq, not_false_eq_true]
  exact ⟨_, rfl⟩

/-- literal/length symbols 286 and 287 (and the filler of an incomplete code) -/
theorem fails_litlenSymbol (hs : c.r.state = sHuffDecodeOuterLoop1) (h1 : c.r.counter % 512 ≠ 256)
    (h2 : c.r.counter % 512 > 285) : FailsTo e c outA sInvalidLitlen := by
  unfold FailsTo
  rw [step_HuffDecodeOuterLoop1 hs]; unfold stHuffDecodeOuterLoop1
  simp only [h1, ↓reduceIte, h2]
  exact ⟨_, rfl⟩

/-- distance symbols 30 and 31 (and the filler 286) -/
theorem fails_distSymbol {c1 : Ctx} {sym : Nat} (hs : c.r.state = sDecodeDistance)
    (hd : decodeHuff e.inp c.r.distCode c = (c1, some sym)) (h : sym > 29) : FailsTo e c outA sInvalidDist := by
  unfold FailsTo
  rw [step_DecodeDistance hs]; unfold stDecodeDistance
  simp only [hd, h, ↓reduceIte]
  exact ⟨_, rfl⟩

theorem fails_distanceFar (hs : c.r.state = sHuffDecodeOuterLoop2) (hflat : e.ring = false) (h : c.r.dist > c.outPos) :
    FailsTo e c outA sDistanceOutOfBounds := by
  unfold FailsTo
  rw [step_Match1 hs]; unfold stMatch
  simp only [h, hflat, Bool.not_false, and_self, true_or, ↓reduceIte]
  exact ⟨_, rfl⟩

/-- invalid zlib header (method, window field, preset dictionary, check bits) -/
theorem fails_zlibHeader {b : UInt8} (hs : c.r.state = sReadZlibFlg) (hb : e.inp[c.inPos]? = some b)
    (hbad : zlibHeaderValid c.r.zHeader0 b.toNat = false) : FailsTo e c outA sBadZlibHeader := by
  unfold FailsTo
  rw [step_ReadZlibFlg hs]; unfold stReadZlibFlg; rw [hb]
  simp only [hbad, Bool.not_false, Bool.true_or, ↓reduceIte]
  exact ⟨_, rfl⟩

/-! ### One token: the model's stop for every way the specification's token decoding stops -/

theorem litlen_bad_ends (hX : P stFailed) (hs : c.r.state = sWriteSymbol) (h1 : c.r.counter % 512 > 285) :
    EndsIn P e c outA := by
  refine .of_step (micro_writeSymbol_hi (e := e) (outA := outA) hs (by omega)) ?_
  exact (fails_litlenSymbol (c := setState c sHuffDecodeOuterLoop1) rfl (by show c.r.counter % 512 ≠ 256; omega) h1).ends hX

theorem litlen_286_ends (hX : P stFailed) (hs : c.r.state = sDecodeLitlen)
    (h : (decodeHuff e.inp c.r.litCode c).2 = some 286) : EndsIn P e c outA := by
  have : step e c outA = .cont (setState { (decodeHuff e.inp c.r.litCode c).1 with
      r := { (decodeHuff e.inp c.r.litCode c).1.r with counter := 286 } } sWriteSymbol) outA := by
    rw [step_DecodeLitlen hs]; unfold stDecodeLitlen
    generalize decodeHuff e.inp c.r.litCode c = q at h
    obtain ⟨c1, o⟩ := q; subst h; rfl
  exact .of_step this (litlen_bad_ends hX rfl (by show 286 % 512 > 285; decide))

theorem dist_bad_ends {d : Nat} (hX : P stFailed) (hs : c.r.state = sDecodeDistance)
    (h : (decodeHuff e.inp c.r.distCode c).2 = some d) (hd : d > 29) : EndsIn P e c outA :=
  (fails_distSymbol hs (Prod.ext rfl h) hd).ends hX

theorem match_full_ends (hM : P stHasMoreOutput)
    (hs : c.r.state = sHuffDecodeOuterLoop2 ∨ c.r.state = sWriteLenBytesToEnd)
    (hd2 : c.r.dist ≤ c.outPos) (hlen : c.outPos ≤ e.outLen) (hc0 : c.r.counter ≠ 0) (hw : e.outEnd ≤ c.outPos) :
    EndsIn P e c outA := by
  have : step e c outA = .fin stHasMoreOutput (setState c sWriteLenBytesToEnd) outA := by
    rw [hs.elim step_Match1 step_Match2]; unfold stMatch wrBytesLeft
    rw [if_neg (not_oob hd2 hlen), if_neg hc0, if_pos (Nat.sub_eq_zero_of_le hw)]
  exact .of_fin this hM

/-- A match longer than the room left in the granted window: the window is filled, then the call
    reports "has more output". -/
theorem match_noroom_ends (hM : P stHasMoreOutput)
    (hs : c.r.state = sHuffDecodeOuterLoop2) (hd2 : c.r.dist ≤ c.outPos) (hpos : c.outPos ≤ e.outEnd)
    (hend : e.outEnd ≤ e.outLen) (hroom : e.outEnd - c.outPos < c.r.counter) : EndsIn P e c outA := by
  have hc0 : c.r.counter ≠ 0 := Nat.ne_of_gt (Nat.zero_lt_of_lt hroom)
  by_cases hw : e.outEnd ≤ c.outPos
  · exact match_full_ends hM (.inl hs) hd2 (Nat.le_trans hpos hend) hc0 hw
  · have hrem : ¬ c.r.counter - (e.outEnd - c.outPos) = 0 := Nat.sub_ne_zero_of_lt hroom
    have h1 : ∃ c2 o2, step e c outA = .cont c2 o2 ∧ c2.r.state = sWriteLenBytesToEnd ∧ c2.r.dist = c.r.dist ∧
        c2.r.counter ≠ 0 ∧ c2.outPos = e.outEnd := by
      rw [step_Match1 hs]; unfold stMatch wrBytesLeft
      rw [if_neg (not_oob hd2 (Nat.le_trans hpos hend)), if_neg hc0, if_neg (Nat.sub_ne_zero_of_lt (Nat.lt_of_not_le hw))]
      rw [Nat.min_eq_left (Nat.le_of_lt hroom), if_neg hrem]
      exact ⟨_, _, rfl, rfl, rfl, hrem, Nat.add_sub_cancel' hpos⟩
    obtain ⟨c2, o2, hst, hs2, hd, hc2, ho2⟩ := h1
    exact .of_step hst (match_full_ends hM (.inr hs2) (hd ▸ ho2 ▸ Nat.le_trans hd2 hpos) (ho2 ▸ hend) hc2 (Nat.le_of_eq ho2.symm))

theorem lit_noroom_ends {pos s p : Nat} {full : Array UInt8} (hM : P stHasMoreOutput)
    (hsim : Sim e c outA pos full) (hs : c.r.state = sDecodeLitlen)
    (hd : decodeSym c.r.litCode e.inp pos = .sym s p) (hlt : s < 256) (hroom : e.outEnd ≤ full.size) :
    EndsIn P e c outA := by
  obtain ⟨c1, hst1, hs1, hc1, hr1, ho1, i1, h81⟩ := micro_decodeLitlen (outA := outA) hs hsim.rep hd
  refine .of_step hst1 ?_
  have : step e c1 outA = .fin stHasMoreOutput c1 outA := by
    rw [step_WriteSymbol hs1]; unfold stWriteSymbol wrBytesLeft
    rw [if_neg (by rw [hc1]; exact Nat.not_le.mpr hlt), if_neg (by rw [ho1, hsim.outPos, Nat.sub_eq_zero_of_le hroom]; decide)]
  exact .of_fin this hM

/-- What `P` must allow when the stream is not accepted: a starved run and a failed one; the
    specification's distance limit is then no tighter than the format's. -/
structure Refusal (P : Int → Prop) (e : Env) (maxDist : Nat) : Prop where
  eoi    : P e.eoi
  failed : P stFailed
  dist   : 32768 ≤ maxDist

/-- ONE TOKEN, EVERY WAY IT CAN FAIL: where the specification's token decoding rejects or runs out
    of data, the model (flat buffer) ends starved or failed. -/
theorem tok_ends {pos maxDist : Nat} {full : Array UInt8} (hR : Refusal P e maxDist) (hflat : e.ring = false)
    (hsim : Sim e c outA pos full) (hs : c.r.state = sDecodeLitlen)
    (hb : ∀ s p, decodeSym c.r.litCode e.inp pos = .sym s p → s < 512)
    (ht : (∃ w, decodeToken maxDist c.r.litCode c.r.distCode e.inp pos full.size = .reject w) ∨
          decodeToken maxDist c.r.litCode c.r.distCode e.inp pos full.size = .truncated) :
    EndsIn P e c outA := by
  unfold decodeToken at ht
  have hnolit : decodeSym c.r.litCode e.inp pos = .short ∨ decodeSym c.r.litCode e.inp pos = .invalid →
      EndsIn P e c outA := fun h =>
    (decodeHuff_nosym hsim.rep h).elim (fun h => .of_starved (step_DecodeLitlen hs) h hR.eoi)
      (fun h => litlen_286_ends hR.failed hs h.2)
  cases h1 : decodeSym c.r.litCode e.inp pos with
  | short => exact hnolit (.inl h1)
  | invalid => exact hnolit (.inr h1)
  | sym s p1 =>
    have hs512 := hb s p1 h1
    simp only [h1] at ht
    by_cases hlt : s < 256
    · simp [hlt] at ht
    · simp only [hlt, ↓reduceIte] at ht
      by_cases he : s = 256
      · simp [he] at ht
      · simp only [he, ↓reduceIte] at ht
        by_cases hg : s > 285
        · -- symbols 286, 287
          obtain ⟨c1, hst1, hs1, hc1, hr1, ho1, i1, h81⟩ := micro_decodeLitlen (outA := outA) hs hsim.rep h1
          exact .of_step hst1 (litlen_bad_ends hR.failed hs1 (by rw [hc1]; omega))
        · simp only [hg, ↓reduceIte] at ht
          have h256 : 256 < s := by omega
          have h285 : s ≤ 285 := by omega
          cases h2 : bitsAt e.inp p1 (lengthBaseExtra s).2 with
          | none =>
            obtain ⟨c3, r03, hs3, hc3, hn3, hr3, ho3, i3, h83⟩ := sim_len hsim hs h1 h256 h285
            have hne : (lengthBaseExtra s).2 ≠ 0 := by
              intro hz; rw [hz, bitsAt_zero] at h2; simp at h2
            rw [if_pos hne] at hs3
            exact .of_reaches r03 (.of_starved (step_ReadExtraBitsLitlen hs3)
              (readBits_short hr3 (by rw [hn3]; exact h2)) hR.eoi)
          | some lx =>
            simp only [h2] at ht
            obtain ⟨c4, r04, hs4, hc4, hr4, ho4, i4, h84⟩ := sim_lenExtra hsim hs h1 h256 h285 h2
            rw [← i4.dist] at ht
            have hnodist : decodeSym c4.r.distCode e.inp (p1 + (lengthBaseExtra s).2) = .short ∨
                decodeSym c4.r.distCode e.inp (p1 + (lengthBaseExtra s).2) = .invalid → EndsIn P e c outA := fun h =>
              .of_reaches r04 ((decodeHuff_nosym hr4 h).elim (fun h => .of_starved (step_DecodeDistance hs4) h hR.eoi)
                (fun h => dist_bad_ends hR.failed hs4 h.2 (by decide)))
            cases h3 : decodeSym c4.r.distCode e.inp (p1 + (lengthBaseExtra s).2) with
            | short => exact hnodist (.inl h3)
            | invalid => exact hnodist (.inr h3)
            | sym d p3 =>
              simp only [h3] at ht
              by_cases hd : d > 29
              · exact .of_reaches r04 (dist_bad_ends hR.failed hs4 (decodeHuff_rep hr4 h3).1 hd)
              · simp only [hd, ↓reduceIte] at ht
                have hd29 : d ≤ 29 := by omega
                rw [i4.dist] at h3
                cases h4 : bitsAt e.inp p3 (distBaseExtra d).2 with
                | none =>
                  obtain ⟨c5, r05, hs5, hdist5, hn5, hc5, hr5, ho5, i5, h85⟩ := sim_dist hsim hs h1 h256 h285 h2 h3 hd29
                  have hne : (distBaseExtra d).2 ≠ 0 := by
                    intro hz; rw [hz, bitsAt_zero] at h4; simp at h4
                  rw [if_pos hne] at hs5
                  exact .of_reaches r05 (.of_starved (step_ReadExtraBitsDistance hs5)
                    (readBits_short hr5 (by rw [hn5]; exact h4)) hR.eoi)
                | some dx =>
                  simp only [h4] at ht
                  obtain ⟨c6, r06, hs6, hd6, hc6, hr6, ho6, i6, h86⟩ := sim_distExtra hsim hs h1 h256 h285 h2 h3 hd29 h4
                  have hrange := distBase_range d hd29
                  have hdxlt := bitsAt_lt e.inp _ _ _ h4
                  have hmax := hR.dist
                  by_cases hfar : (distBaseExtra d).1 + dx > full.size
                  · exact .of_reaches r06 ((fails_distanceFar hs6 hflat (by rw [hd6, ho6, hsim.outPos]; exact hfar)).ends hR.failed)
                  · have hnear : ¬ (distBaseExtra d).1 + dx > maxDist := by omega
                    simp [hfar, hnear] at ht

/-- THE TOKEN LOOP, CONVERSE: if the body of a Huffman block is rejected, or the data ends inside it,
    or it is accepted but produces more than the granted window holds, the model ends accordingly. -/
theorem tokens_ends (hM : P stHasMoreOutput) (hflat : e.ring = false) (hend : e.outEnd ≤ e.outLen)
    (pre : Array UInt8) (maxDist : Nat) (lit dist : Code)
    (hb : ∀ pos s p, decodeSym lit e.inp pos = .sym s p → s < 512) :
    ∀ (fuel pos : Nat) (o : Array UInt8) (toks : Array Token) (c : Ctx) (outA : Array UInt8),
    Sim e c outA pos (pre ++ o) → c.r.state = sDecodeLitlen → c.r.litCode = lit → c.r.distCode = dist →
    pre.size + o.size ≤ e.outEnd →
    Decided (Refusal P e maxDist) (fun R => e.outEnd < pre.size + R.2.1.size)
      (decodeTokens pre maxDist lit dist e.inp fuel pos o toks) →
    EndsIn P e c outA := by
  intro fuel
  induction fuel with
  | zero => intro pos o toks c outA _ _ _ _ _ hbad; exact hbad.elim
  | succ fuel ih =>
    intro pos o toks c outA hsim hs hlit hdist hfit hbad
    rw [decodeTokens] at hbad
    have hsz : (pre ++ o).size = pre.size + o.size := Array.size_append
    have hfail : (∃ w, decodeToken maxDist lit dist e.inp pos (pre.size + o.size) = .reject w) ∨
        decodeToken maxDist lit dist e.inp pos (pre.size + o.size) = .truncated → Refusal P e maxDist →
        EndsIn P e c outA := fun h hR =>
      tok_ends hR hflat hsim hs (fun s p h => hb pos s p (by rw [← hlit]; exact h)) (by rw [hlit, hdist, hsz]; exact h)
    cases ht : decodeToken maxDist lit dist e.inp pos (pre.size + o.size) with
    | lit b p =>
      rw [ht] at hbad
      obtain ⟨s, hd, hlt, hbs⟩ := decodeToken_lit_inv ht
      by_cases hroom : pre.size + o.size < e.outEnd
      · obtain ⟨c2, outA2, r2, hs2, hsim2, i2⟩ :=
          sim_lit hend hsim hs (by rw [hlit]; exact hd) hlt (by rw [hsz]; exact hroom)
        rw [← hbs, ← Array.append_push] at hsim2
        exact .of_reaches r2 (ih _ _ _ c2 outA2 hsim2 hs2 (by rw [i2.lit, hlit]) (by rw [i2.dist, hdist])
          (by rw [Array.size_push]; exact hroom) hbad)
      · exact lit_noroom_ends hM hsim hs (by rw [hlit]; exact hd) hlt (by rw [hsz]; exact Nat.le_of_not_lt hroom)
    | eob p =>
      rw [ht] at hbad
      exact absurd hfit (Nat.not_le_of_gt hbad)
    | copy len dd p =>
      rw [ht] at hbad
      obtain ⟨s, p1, lx, d, p3, dx, hd, h1, h2, hlx, hdd, hd29, hdx, hlen, hddeq, hp, havail⟩ := decodeToken_copy_inv ht
      by_cases hroom : pre.size + o.size + len ≤ e.outEnd
      · obtain ⟨c9, outA9, r9, hs9, hsim9, i9⟩ :=
          sim_copy hflat hend hsim hs (by rw [hlit]; exact hd) h1 h2 hlx (by rw [hdist]; exact hdd) hd29 hdx
            (by rw [hsz, ← hddeq]; exact havail) (by rw [hsz, ← hlen]; exact hroom)
        rw [← hlen, ← hddeq, ← hp, ← copyMatch_eq pre dd len o havail] at hsim9
        exact .of_reaches r9 (ih _ _ _ c9 outA9 hsim9 hs9 (by rw [i9.lit, hlit]) (by rw [i9.dist, hdist])
          (by rw [copyMatch_size, ← Nat.add_assoc]; exact hroom) hbad)
      · obtain ⟨c6, r06, hs6, hd6, hc6, hr6, ho6, i6, h86⟩ :=
          sim_distExtra hsim hs (by rw [hlit]; exact hd) h1 h2 hlx (by rw [hdist]; exact hdd) hd29 hdx
        have ho : c6.outPos = pre.size + o.size := by rw [ho6, hsim.outPos, hsz]
        exact .of_reaches r06 (match_noroom_ends hM hs6 (by rw [hd6, ho, ← hddeq]; exact havail) (by rw [ho]; exact hfit)
          hend (by rw [hc6, ho, ← hlen]; exact Nat.sub_lt_left_of_lt_add hfit (Nat.lt_of_not_le hroom)))
    | reject w => rw [ht] at hbad; exact hfail (.inl ⟨w, ht⟩) hbad
    | truncated => rw [ht] at hbad; exact hfail (.inr ht) hbad

/-! ### A complete code decodes every bit pattern -/

theorem kraftLeftAux_zero_counts (lens : Array Nat) : ∀ (k len left : Nat), len + k ≤ 16 → sumCnt lens len k = 0 →
    kraftLeftAux (countLens lens) k len left = some (2 ^ k * left) := by
  intro k
  induction k with
  | zero => intro len left _ _; simp [kraftLeftAux]
  | succ k ih =>
    intro len left hle hsum
    have hs : cntEq lens len + sumCnt lens (len + 1) k = 0 := hsum
    have hc : (countLens lens).getD len 0 = 0 := by rw [countLens_getD lens len (by omega)]; omega
    unfold kraftLeftAux
    simp only [hc, Nat.not_lt_zero, ↓reduceIte, Nat.sub_zero]
    rw [ih (len + 1) (2 * left) (by omega) (by omega), Nat.pow_succ, Nat.mul_assoc]

/-- The counting walk over a complete code (Kraft sum exactly one) never falls off the code. -/
theorem decodeSymAux_complete (lens : Array Nat) (data : Array UInt8) :
    ∀ (fuel len pos code first index left : Nat), len + fuel = 16 →
    kraftLeftAux (countLens lens) fuel len left = some 0 →
    first ≤ code → code - first + 2 ≤ 2 * left →
    index + sumCnt lens len fuel = (mkCode lens).syms.size →
    decodeSymAux (mkCode lens) data fuel len pos code first index ≠ .invalid := by
  intro fuel
  induction fuel with
  | zero =>
    intro len pos code first index left _ hk _ hinv _
    simp only [kraftLeftAux, Option.some.injEq] at hk
    omega
  | succ fuel ih =>
    intro len pos code first index left hlen hk hfc hinv hidx
    unfold decodeSymAux
    by_cases hge : index ≥ (mkCode lens).syms.size
    · exfalso
      have hz : sumCnt lens len (fuel + 1) = 0 := by omega
      rw [kraftLeftAux_zero_counts lens (fuel + 1) len left (by omega) hz] at hk
      simp only [Option.some.injEq] at hk
      have hp : 0 < 2 ^ (fuel + 1) := Nat.pow_pos (by omega)
      have : left = 0 := by
        rcases Nat.mul_eq_zero.mp hk with h | h
        · omega
        · exact h
      omega
    · simp only [hge, ↓reduceIte]
      cases hb : bitAt data pos with
      | none => simp
      | some b =>
        have hb1 := bitAt_le_one hb
        by_cases hlt : code + b < first + (mkCode lens).count.getD len 0
        · simp only [hlt, ↓reduceIte]; simp
        · simp only [hlt, ↓reduceIte]
          have hcnt : (mkCode lens).count.getD len 0 = cntEq lens len := countLens_getD lens len (by omega)
          unfold kraftLeftAux at hk
          have hcnt' : (countLens lens).getD len 0 = cntEq lens len := countLens_getD lens len (by omega)
          simp only [hcnt'] at hk
          by_cases hov : 2 * left < cntEq lens len
          · simp [hov] at hk
          · simp only [hov, ↓reduceIte] at hk
            have hs : sumCnt lens len (fuel + 1) = cntEq lens len + sumCnt lens (len + 1) fuel := rfl
            rw [hcnt] at hlt ⊢
            exact ih (len + 1) (pos + 1) (2 * (code + b)) (2 * (first + cntEq lens len)) (index + cntEq lens len)
              (2 * left - cntEq lens len) (by omega) hk (by omega) (by omega) (by omega)

theorem decodeSym_complete {lens : Array Nat} (hv : codeValid .clen lens = true) (data : Array UInt8) (pos : Nat) :
    decodeSym (mkCode lens) data pos ≠ .invalid := by
  have hk : kraftLeft (countLens lens) = some 0 := by
    unfold codeValid at hv
    cases hkl : kraftLeft (countLens lens) with
    | none => simp [hkl] at hv
    | some k =>
      cases k with
      | zero => rfl
      | succ k => simp [hkl] at hv
  unfold decodeSym
  refine decodeSymAux_complete lens data 15 1 pos 0 0 0 1 rfl hk (Nat.le_refl _) (by omega) ?_
  show 0 + sumCnt lens 1 15 = (sortedSymsAux lens 15 1 #[]).size
  rw [sortedSymsAux_size]; simp


/-! ### Stored blocks -/

theorem copyStored_none (data : Array UInt8) (n : Nat) : ∀ (q : Nat) (o : Array UInt8),
    copyStored data q o n = none → data.size < q + n := by
  induction n with
  | zero => intro q o h; simp [copyStored] at h
  | succ n ih =>
    intro q o h
    unfold copyStored at h
    cases hb : data[q]? with
    | none =>
      have := Array.getElem?_eq_none_iff.mp hb
      omega
    | some b =>
      simp only [hb] at h
      have := ih _ _ h
      omega

/-- A state that takes one input byte per step until its counter reaches 4, with fewer bytes left
    than it still needs (`RawHeader`, `ReadAdler32`). -/
theorem bytes_short_ends (hE : P e.eoi) {s : Nat}
    (hnone : ∀ c : Ctx, c.r.state = s → c.r.counter < 4 → c.r.numBits = 0 → e.inp[c.inPos]? = none →
      step e c outA = .fin e.eoi c outA)
    (hsome : ∀ (c : Ctx) (b : UInt8), c.r.state = s → c.r.counter < 4 → c.r.numBits = 0 → e.inp[c.inPos]? = some b →
      ∃ c1, step e c outA = .cont c1 outA ∧ c1.r.state = s ∧ c1.r.counter = c.r.counter + 1 ∧ c1.r.numBits = 0 ∧
        c1.inPos = c.inPos + 1) :
    ∀ (n : Nat) (c : Ctx), c.r.state = s → c.r.counter + n = 4 → c.r.numBits = 0 → c.inPos ≤ e.inp.size →
    e.inp.size < c.inPos + n → EndsIn P e c outA := by
  intro n
  induction n with
  | zero => intro c _ _ _ h1 h2; omega
  | succ n ih =>
    intro c hs hc hnb hle hshort
    cases hb : e.inp[c.inPos]? with
    | none => exact .of_fin (hnone c hs (by omega) hnb hb) hE
    | some b =>
      have := getElem?_some_lt hb
      obtain ⟨c1, hst, hs1, hc1, hn1, hi1⟩ := hsome c b hs (by omega) hnb hb
      exact .of_step hst (ih c1 hs1 (by omega) hn1 (by omega) (by omega))

theorem rawHeader_short_ends (hE : P e.eoi) (hs : c.r.state = sRawHeader) (hc : c.r.counter = 0) (hnb : c.r.numBits = 0)
    (hle : c.inPos ≤ e.inp.size) (hshort : e.inp.size < c.inPos + 4) : EndsIn P e c outA := by
  refine bytes_short_ends hE (s := sRawHeader) (fun c hs h4 hnb hb => ?_) (fun c b hs h4 hnb hb => ?_) 4 c hs (by omega) hnb
    hle hshort
  · rw [step_RawHeader hs]; unfold stRawHeader
    simp only [h4, ↓reduceIte, hnb, ne_eq, not_true_eq_false, hb]
  · obtain ⟨c1, hst, hs1, hc1, hn1, _, hi1, _⟩ := rawHeader_step (outA := outA) hs rfl h4 hnb hb
    exact ⟨c1, hst, hs1, hc1, hn1, hi1⟩

theorem memcpy_stop_ends (hM : P stHasMoreOutput) (hE : e.inp.size ≤ c.inPos → P e.eoi)
    (hs : c.r.state = sRawMemcpy1) (hc0 : c.r.counter ≠ 0) (hstop : e.outEnd ≤ c.outPos ∨ e.inp.size ≤ c.inPos) :
    EndsIn P e c outA := by
  by_cases hw : e.outEnd - c.outPos = 0
  · have : step e c outA = .fin stHasMoreOutput c outA := by
      rw [step_RawMemcpy1 hs]; unfold stRawMemcpy1 wrBytesLeft
      simp only [hc0, hw, ↓reduceIte]
    exact .of_fin this hM
  · refine .of_step (micro_memcpy1_go (outA := outA) hs hc0 (by omega)) ?_
    have hin : ¬ (setState c sRawMemcpy2).inPos < e.inp.size := by show ¬ c.inPos < _; omega
    have : step e (setState c sRawMemcpy2) outA = .fin e.eoi (setState c sRawMemcpy2) outA := by
      rw [step_RawMemcpy2 rfl]; unfold stRawMemcpy2
      simp only [hin, ↓reduceIte]
    exact .of_fin this (hE (by omega))

/-- one pass of the stored copy takes `min (W - op) (N - ip)` bytes: all the window or all the input has room for -/
theorem memcpy_arith {W op N ip k : Nat} (h1 : op < W) (h2 : ip < N) (hbig : min (W - op) (N - ip) < k) :
    min (min (W - op) (N - ip)) k = min (W - op) (N - ip) ∧ k - min (W - op) (N - ip) ≠ 0 ∧
    (W ≤ op + min (W - op) (N - ip) ∨ N ≤ ip + min (W - op) (N - ip)) ∧
    (N ≤ ip + min (W - op) (N - ip) → N - ip < k) := by
  omega

theorem memcpy_ends (hM : P stHasMoreOutput) (hE : e.inp.size - c.inPos < c.r.counter → P e.eoi)
    (hs : c.r.state = sRawMemcpy1) (hle : c.inPos ≤ e.inp.size)
    (hbig : min (e.outEnd - c.outPos) (e.inp.size - c.inPos) < c.r.counter) : EndsIn P e c outA := by
  have hc0 : c.r.counter ≠ 0 := Nat.ne_of_gt (Nat.zero_lt_of_lt hbig)
  by_cases hstop : e.outEnd ≤ c.outPos ∨ e.inp.size ≤ c.inPos
  · exact memcpy_stop_ends hM (fun h => hE (by omega)) hs hc0 hstop
  · have h1 : c.outPos < e.outEnd := Nat.lt_of_not_le fun h => hstop (.inl h)
    have h2 : c.inPos < e.inp.size := Nat.lt_of_not_le fun h => hstop (.inr h)
    obtain ⟨a1, a2, a3, a4⟩ := memcpy_arith h1 h2 hbig
    refine .of_step (micro_memcpy1_go (outA := outA) hs hc0 h1) ?_
    obtain ⟨c2, hst2, hs2, hc2, hi2, ho2, _⟩ :=
      micro_memcpy2 (e := e) (c := setState c sRawMemcpy2) (outA := outA) rfl h2 a1
    exact .of_step hst2 (memcpy_stop_ends hM (fun h => hE (a4 (hi2 ▸ h))) hs2 (hc2 ▸ a2) (ho2 ▸ hi2 ▸ a3))

theorem sub_lt_of_lt_add {a b c : Nat} (h : a < b + c) (hc : c ≠ 0) : a - b < c := by omega

theorem stored_short_ends {Q : Nat} {full : Array UInt8} (hE : P e.eoi) (hs : c.r.state = sBlockTypeNoCompression)
    (hsim : Sim e c outA Q full)
    (hshort : bitsAt e.inp (8 * ((Q + 7) / 8)) 16 = none ∨ bitsAt e.inp (8 * ((Q + 7) / 8) + 16) 16 = none) :
    EndsIn P e c outA := by
  obtain ⟨d0, hst0, hs0, hc0, hn0, _, hi0, hle0, _⟩ := micro_noCompression (outA := outA) hs hsim.rep hsim.nb8
  refine .of_step hst0 (rawHeader_short_ends hE hs0 hc0 hn0 hle0 ?_)
  rcases hshort with h | h
  · have := bitsAt_none_short _ _ _ h; omega
  · have := bitsAt_none_short _ _ _ h; omega

/-- THE STORED BLOCK, CONVERSE: with LEN and NLEN complementary, unless the announced bytes are all there and the
    window has room for them, the model ends accordingly. -/
theorem stored_ends {Q len nlen : Nat} {pre o : Array UInt8} (hM : P stHasMoreOutput)
    (hs : c.r.state = sBlockTypeNoCompression) (hsim : Sim e c outA Q (pre ++ o)) (hrh : c.r.rawHeader.size = 4)
    (hfit : pre.size + o.size ≤ e.outEnd) (hl : bitsAt e.inp (8 * ((Q + 7) / 8)) 16 = some len)
    (hn : bitsAt e.inp (8 * ((Q + 7) / 8) + 16) 16 = some nlen) (hchk : len + nlen = 65535)
    (hbad : match copyStored e.inp ((Q + 7) / 8 + 4) o len with
      | none => P e.eoi
      | some o2 => e.outEnd < pre.size + o2.size) : EndsIn P e c outA := by
  obtain ⟨c5, r5, hs5, hc5, _, _, hi5, hle5, ho5, _⟩ := sim_storedHeader (outA := outA) hs hsim hrh hl hn
  rw [if_neg (fun h => h hchk)] at hs5
  refine .of_reaches r5 ?_
  by_cases hz : len = 0
  · -- an empty block is accepted and adds nothing
    subst hz
    exact absurd hfit (Nat.not_le_of_gt hbad)
  · -- the body against the specification's copy of its `len` bytes
    rw [if_neg hz] at hs5
    rw [← hi5] at hbad
    subst hc5
    refine memcpy_ends hM (fun hlt => ?_) hs5 hle5 ?_
    · cases hcp : copyStored e.inp c5.inPos o c5.r.counter with
      | none => rw [hcp] at hbad; exact hbad
      | some o2 =>
        exact absurd hlt (Nat.not_lt.mpr (Nat.le_sub_of_add_le'
          ((copyStored_spec _ _ _ _ _ hcp).1 (Nat.pos_of_ne_zero hz))))
    · cases hcp : copyStored e.inp c5.inPos o c5.r.counter with
      | none => exact Nat.lt_of_le_of_lt (Nat.min_le_right _ _) (sub_lt_of_lt_add (copyStored_none _ _ _ _ hcp) hz)
      | some o2 =>
        rw [hcp] at hbad
        have hb : e.outEnd < pre.size + o2.size := hbad
        rw [(copyStored_spec _ _ _ _ _ hcp).2, ← Nat.add_assoc, ← Array.size_append, ← ho5] at hb
        exact Nat.lt_of_le_of_lt (Nat.min_le_left _ _) (sub_lt_of_lt_add hb hz)

/-! ### The dynamic block header -/

theorem tableSizes_ends {pos : Nat} (hE : P e.eoi) (hX : P stFailed) (hs : c.r.state = sReadTableSizes)
    (hc : c.r.counter = 0) (hts : c.r.tableSizes.size = 3) (hr : Rep e.inp c pos)
    (hbad : ∀ hlit hdist hclen, bitsAt e.inp pos 5 = some hlit → bitsAt e.inp (pos + 5) 5 = some hdist →
      bitsAt e.inp (pos + 10) 4 = some hclen → (hlit + 257 > 286 ∨ hdist + 1 > 30)) : EndsIn P e c outA := by
  have starved : ∀ {c : Ctx} {pos k : Nat}, c.r.state = sReadTableSizes → c.r.counter = k → k < 3 → Rep e.inp c pos →
      bitsAt e.inp pos ([5, 5, 4].getD k 0) = none → EndsIn P e c outA := by
    intro c pos k hs hc hk hr hv
    have : step e c outA = .fin e.eoi (readBits e.inp ([5, 5, 4].getD k 0) c).1 outA := by
      rw [step_ReadTableSizes hs]; unfold stReadTableSizes
      have hlt : c.r.counter < 3 := by omega
      simp only [hlt, ↓reduceIte]
      rw [hc]
      exact starved_step (readBits_short hr hv)
    exact .of_fin this hE
  cases h1 : bitsAt e.inp pos 5 with
  | none => exact starved (k := 0) hs hc (by omega) hr h1
  | some hlit =>
    obtain ⟨c1, st1, hs1, hc1, ht1, hr1, h81, i1, l1⟩ := micro_tableSize (outA := outA) (k := 0) hs hc (by omega) hr h1
    refine .of_step st1 ?_
    cases h2 : bitsAt e.inp (pos + 5) 5 with
    | none => exact starved (k := 1) hs1 hc1 (by omega) hr1 h2
    | some hdist =>
      obtain ⟨c2, st2, hs2, hc2, ht2, hr2, h82, i2, l2⟩ := micro_tableSize (outA := outA) (k := 1) hs1 hc1 (by omega) hr1 h2
      refine .of_step st2 ?_
      cases h3 : bitsAt e.inp (pos + 10) 4 with
      | none => exact starved (k := 2) hs2 hc2 (by omega) hr2 h3
      | some hclen =>
        obtain ⟨c3, st3, hs3, hc3, ht3, hr3, h83, i3, l3⟩ := micro_tableSize (outA := outA) (k := 2) hs2 hc2 (by omega) hr2 h3
        refine .of_step st3 ?_
        have hts3 : c3.r.tableSizes = #[hlit + 257, hdist + 1, hclen + 4] := by
          rw [ht3, ht2, ht1]
          exact set3 _ hts _ _ _
        have hb := hbad hlit hdist hclen h1 h2 h3
        refine (fails_tableSizes hs3 (by omega) ?_).ends hX
        rw [hts3]
        show ¬ (hlit + 257 ≤ 286 ∧ hdist + 1 ≤ 30)
        omega

theorem clens_ends (hE : P e.eoi) : ∀ (n k pos : Nat) (acc : Array Nat) (c : Ctx),
    c.r.state = sReadHufflenTableCodeSize → c.r.counter = k → c.r.tableSizes.getD 2 0 = k + n → k + n ≤ 19 →
    Rep e.inp c pos →
    readClens e.inp n pos (clenOrder.drop k) acc = none → EndsIn P e c outA := by
  intro n
  induction n with
  | zero => intro k pos acc c _ _ _ _ _ h; cases (readClens_zero _ _ _ _).symm.trans h
  | succ n ih =>
    intro k pos acc c hs hc hts hle hr h
    rw [clenOrder_drop k (by omega), readClens_cons] at h
    cases hv : bitsAt e.inp pos 3 with
    | none =>
      have : step e c outA = .fin e.eoi (readBits e.inp 3 c).1 outA := by
        rw [step_ReadHufflenTableCodeSize hs]; unfold stReadHufflenTableCodeSize
        have hlt : c.r.counter < c.r.tableSizes.getD 2 0 := by omega
        simp only [hlt, ↓reduceIte]
        exact starved_step (readBits_short hr hv)
      exact .of_fin this hE
    | some v =>
      rw [hv] at h
      obtain ⟨c1, st1, hs1, hc1, hcl1, ht1, hr1, h81, i1, l1⟩ :=
        micro_hufflen (outA := outA) hs hc (by omega) hr hv
      exact .of_step st1 (ih (k + 1) (pos + 3) _ c1 hs1 hc1 (by rw [ht1]; omega) (by omega) hr1 h)

/-- One step of the code-length reading that fails: starved, or "repeat previous" with no previous. -/
theorem lenStep_ends {cl : Code} {pos : Nat} {acc : Array Nat} {clens : Array Nat} (hE : P e.eoi) (hX : P stFailed)
    (hs : c.r.state = sReadLitlenDistTablesCodeSize) (hcl : c.r.clenCode = cl) (hmk : cl = mkCode clens)
    (h19 : clens.size = 19) (hcv : codeValid .clen clens = true)
    (hlt : c.r.counter < c.r.tableSizes.getD 0 0 + c.r.tableSizes.getD 1 0)
    (hrep : LensRep c acc) (hr : Rep e.inp c pos)
    (hstep : (∃ w, readLenStep cl e.inp pos acc = .reject w) ∨ readLenStep cl e.inp pos acc = .truncated) :
    EndsIn P e c outA := by
  cases hd : decodeSym cl e.inp pos with
  | short =>
    have hnone : (decodeHuff e.inp c.r.clenCode c).2 = none :=
      (decodeHuff_nosym hr (.inl (by rw [hcl]; exact hd))).elim id (fun h => by rw [hcl, hd] at h; cases h.1)
    have : step e c outA = .fin e.eoi (decodeHuff e.inp c.r.clenCode c).1 outA := by
      rw [step_ReadLitlenDistTablesCodeSize hs]; unfold stReadLitlenDistTablesCodeSize
      rw [if_pos hlt]
      exact starved_step hnone
    exact .of_fin this hE
  | invalid => exact absurd hd (by rw [hmk]; exact decodeSym_complete hcv e.inp pos)
  | sym s p =>
    have hs19 : s < 19 := h19 ▸ decodeSym_lt (lens := clens) (h19 ▸ Nat.zero_lt_succ 18) (hmk ▸ hd)
    obtain ⟨c1, hok, hr1, h81, hst⟩ := micro_rld_sym (outA := outA) hs hlt hr (by rw [hcl]; exact hd)
    have hcnt1 : c1.r.counter = acc.size := by rw [hok.regs]; exact hrep.cnt
    by_cases h16 : s < 16
    · unfold readLenStep at hstep
      simp [hd, h16] at hstep
    · rw [if_neg h16] at hst
      rw [readLenStep_repeat hd h16 hs19] at hstep
      by_cases hbad : s = 16 ∧ acc.size = 0
      · rw [if_pos (hcnt1 ▸ hbad)] at hst
        exact .of_failure hst (by decide) hX
      · rw [if_neg (hcnt1 ▸ hbad)] at hst
        rw [if_neg hbad] at hstep
        refine .of_step hst ?_
        -- the extra bits are missing
        have hnone : bitsAt e.inp p ([2, 3, 7, 0].getD ((s - 16) % 4) 0) = none := by
          cases hb : bitsAt e.inp p ([2, 3, 7, 0].getD ((s - 16) % 4) 0) with
          | none => rfl
          | some r => rw [hb] at hstep; exact hstep.elim (fun ⟨_, h⟩ => nomatch h) (fun h => nomatch h)
        exact .of_starved (step_ReadExtraBitsCodeSize rfl) (readBits_short (hr1.of_eq rfl rfl rfl) hnone) hE

theorem lens_ends {cl : Code} {clens : Array Nat} (hE : P e.eoi) (hX : P stFailed) (hmk : cl = mkCode clens)
    (h19 : clens.size = 19) (hcv : codeValid .clen clens = true) (total : Nat) (htot : total ≤ 316) :
    ∀ (fuel pos : Nat) (acc : Array Nat) (c : Ctx),
    ((∃ w, readLens cl e.inp total fuel pos acc = .reject w) ∨ (∃ p, readLens cl e.inp total fuel pos acc = .truncated p)) →
    c.r.state = sReadLitlenDistTablesCodeSize → c.r.clenCode = cl →
    c.r.tableSizes.getD 0 0 + c.r.tableSizes.getD 1 0 = total →
    LensRep c acc → Rep e.inp c pos → c.r.numBits < 8 → EndsIn P e c outA := by
  intro fuel
  induction fuel with
  | zero => intro pos acc c h; rcases h with ⟨w, h⟩ | ⟨p, h⟩ <;> simp [readLens] at h
  | succ fuel ih =>
    intro pos acc c h hs hcl hts hrep hr h8
    rw [readLens] at h
    by_cases h1 : acc.size = total
    · simp only [h1, ↓reduceIte] at h
      rcases h with ⟨w, h⟩ | ⟨p, h⟩ <;> simp at h
    · simp only [h1, ↓reduceIte] at h
      by_cases h2 : acc.size > total
      · -- more lengths than announced
        exact (fails_lengthOverrun hs (by rw [hts, hrep.cnt]; exact h2)).ends hX
      · simp only [h2, ↓reduceIte] at h
        have hlt : c.r.counter < c.r.tableSizes.getD 0 0 + c.r.tableSizes.getD 1 0 := by rw [hts, hrep.cnt]; omega
        cases hst : readLenStep cl e.inp pos acc with
        | more p' acc' =>
          rw [hst] at h
          have hsz := (readLenStep_bound hst).2.2
          obtain ⟨c1, r1, hs1, hrep1, hr1, h81, i1, ht1, hcc1⟩ :=
            sim_lenStep (outA := outA) hs hcl hmk h19 hlt hrep hr h8 hst (by omega)
          exact .of_reaches r1 (ih p' acc' c1 h hs1 (by rw [hcc1, hcl]) (by rw [ht1]; exact hts) hrep1 hr1 h81)
        | reject w => exact lenStep_ends hE hX hs hcl hmk h19 hcv hlt hrep hr (.inl ⟨w, hst⟩)
        | truncated => exact lenStep_ends hE hX hs hcl hmk h19 hcv hlt hrep hr (.inr hst)

/-! ### One block -/

theorem fixedLit_sym_lt {data : Array UInt8} {pos s p : Nat} (h : decodeSym fixedLitCode data pos = .sym s p) : s < 512 := by
  have hsz : fixedLitLens.size = 288 := Array.size_ofFn
  have := decodeSym_lt (lens := fixedLitLens) (by omega) h
  omega

theorem prefix_sym_lt {lens : Array Nat} {n m : Nat} {data : Array UInt8} {pos s p : Nat} (hsz : lens.size = n + 1 + m)
    (hn : n + 1 ≤ 512) (h : decodeSym (mkCode (lens.extract 0 (n + 1))) data pos = .sym s p) : s < 512 := by
  have hexsz : (lens.extract 0 (n + 1)).size = n + 1 := by
    rw [Array.size_extract, hsz, Nat.min_eq_left (Nat.le_add_right _ _), Nat.sub_zero]
  have := decodeSym_lt (by rw [hexsz]; exact Nat.succ_pos n) h
  rw [hexsz] at this
  exact Nat.lt_of_lt_of_le this hn

/-- ONE BLOCK, CONVERSE: if the specification does not accept the block starting at `pos` — or accepts
    it with more output than the granted window holds — the model, at `ReadBlockHeader` on the same
    position with the same history, ends accordingly. -/
theorem block_ends (hM : P stHasMoreOutput) (hflat : e.ring = false) (hend : e.outEnd ≤ e.outLen)
    {pre : Array UInt8} {maxDist fuel pos : Nat} {o : Array UInt8}
    (hs : c.r.state = sReadBlockHeader) (hsim : Sim e c outA pos (pre ++ o)) (hsh : Shape c)
    (hfit : pre.size + o.size ≤ e.outEnd)
    (hbad : Decided (Refusal P e maxDist) (fun R => e.outEnd < pre.size + R.2.1.size)
      (inflateBlock pre maxDist e.inp fuel pos o)) :
    EndsIn P e c outA := by
  cases hv : bitsAt e.inp pos 3 with
  | none =>
    rw [inflateBlock_short hv] at hbad
    exact .of_starved (step_ReadBlockHeader hs) (readBits_short hsim.rep hv) hbad.eoi
  | some hdr =>
    have hsim' : ∀ {c1 : Ctx} {p : Nat}, Rep e.inp c1 p → c1.r.numBits < 8 → c1.outPos = c.outPos →
        Sim e c1 outA p (pre ++ o) := fun hr1 h81 ho1 =>
      ⟨hr1, h81, by rw [ho1]; exact hsim.outPos, hsim.outEq, hsim.size⟩
    -- a stored block, behind its header bits
    have stored : hdr / 2 = 0 → (∀ c1, c1.r.state = sBlockTypeNoCompression → Sim e c1 outA (pos + 3) (pre ++ o) →
        c1.r.rawHeader.size = 4 → EndsIn P e c1 outA) → EndsIn P e c outA := fun hb k => by
      obtain ⟨c1, st1, hs1, _, hr1, h81, ho1, _, sh1⟩ := micro_header_stored (outA := outA) hs hsim.rep hv hb
      exact .of_step st1 (k c1 hs1 (hsim' hr1 (h81 hsim.nb8) ho1) (sh1 hsh).1)
    -- a dynamic block, behind its header bits
    have dyn : hdr / 2 = 2 → (∀ c1, c1.r.state = sReadTableSizes → c1.r.counter = 0 → c1.r.blockType = 2 →
        c1.r.tableSizes.size = 3 → c1.r.lenCodes.size = 512 → Rep e.inp c1 (pos + 3) → c1.r.numBits < 8 →
        c1.outPos = c.outPos → EndsIn P e c1 outA) → EndsIn P e c outA := fun hb k => by
      obtain ⟨c1, st1, hs1, _, hc1, hbt1, hr1, h81, ho1, _, sh1⟩ := micro_header_dynamic (outA := outA) hs hsim.rep hv hb
      exact .of_step st1 (k c1 hs1 hc1 hbt1 (sh1 hsh).2.1 (sh1 hsh).2.2 hr1 (h81 hsim.nb8) ho1)
    revert hbad
    refine inflateBlock_cases hv
      (motive := fun v => Decided (Refusal P e maxDist) (fun R => e.outEnd < pre.size + R.2.1.size) v → EndsIn P e c outA)
      (fun hb hshort hR => stored hb fun c1 hs1 hsim1 _ => stored_short_ends hR.eoi hs1 hsim1 hshort)
      (fun len nlen hb hl hn hne hR => stored hb fun c1 hs1 hsim1 hrh1 => ?_)
      (fun len nlen hb hl hn hchk hcp hR => stored hb fun c1 hs1 hsim1 hrh1 =>
        stored_ends hM hs1 hsim1 hrh1 hfit hl hn hchk (by rw [hcp]; exact hR.eoi))
      (fun len nlen o' hb hl hn hchk hcp hbig => stored hb fun c1 hs1 hsim1 hrh1 =>
        stored_ends hM hs1 hsim1 hrh1 hfit hl hn hchk (by rw [hcp]; exact hbig))
      (fun hb hbad => ?_)
      (fun hb hshort hR => dyn hb fun c1 hs1 hc1 _ hts1 _ hr1 _ _ =>
        tableSizes_ends hR.eoi hR.failed hs1 hc1 hts1 hr1 fun _ _ _ e1 e2 e3 =>
          (hshort.elim (fun h => nomatch h.symm.trans e1)
            fun h => h.elim (fun h => nomatch h.symm.trans e2) fun h => nomatch h.symm.trans e3))
      (fun hlit hdist hclen hb h1 h2 h3 hbig hR => dyn hb fun c1 hs1 hc1 _ hts1 _ hr1 _ _ =>
        tableSizes_ends hR.eoi hR.failed hs1 hc1 hts1 hr1 fun _ _ _ e1 e2 _ => by
          cases h1.symm.trans e1; cases h2.symm.trans e2; exact hbig)
      (fun hlit hdist hclen hb h1 h2 h3 hok hcl hR => dyn hb fun c1 hs1 hc1 _ hts1 _ hr1 h81 _ => ?_)
      (fun hlit hdist hclen p1 clens hb h1 h2 h3 hok hcl hclv hR => dyn hb fun c1 hs1 hc1 hbt1 hts1 hlc1 hr1 h81 _ => ?_)
      (fun hlit hdist hclen p1 clens hb h1 h2 h3 hok hcl hclv hna hbad => dyn hb fun c1 hs1 hc1 hbt1 hts1 hlc1 hr1 h81 _ => ?_)
      (fun hlit hdist hclen p1 clens p2 lens hb h1 h2 h3 hok hcl hclv hlens hv2 hR =>
        dyn hb fun c1 hs1 hc1 hbt1 hts1 hlc1 hr1 h81 _ => ?_)
      (fun hlit hdist hclen p1 clens p2 lens hb h1 h2 h3 hok hcl hclv hlens hvl hvd hbad =>
        dyn hb fun c1 hs1 hc1 hbt1 hts1 hlc1 hr1 h81 ho1 => ?_)
      (fun hb hR => ?_)
    · -- LEN and NLEN not complementary
      obtain ⟨c5, r5, hs5, _⟩ := sim_storedHeader (outA := outA) hs1 hsim1 hrh1 hl hn
      rw [if_pos hne] at hs5
      exact .of_reaches r5 (.of_failed (by rw [hs5]; decide) hR.failed)
    · -- fixed Huffman
      obtain ⟨c1, st1, hs1, _, hl1, hd1, hr1, h81, ho1, _⟩ := micro_header_fixed (outA := outA) hs hsim.rep hv hb
      exact .of_step st1 (tokens_ends hM hflat hend pre maxDist fixedLitCode fixedDistCode (fun _ _ _ h => fixedLit_sym_lt h)
        fuel (pos + 3) o #[] c1 outA (hsim' hr1 (h81 hsim.nb8) ho1) hs1 hl1 hd1 hfit (Decided.map.mp hbad :))
    · -- the data ends inside the lengths of the code-length code
      obtain ⟨c4, r4, hs4, hc4, ht4, _, hr4, h84, _⟩ := sim_tableSizes (outA := outA) hs1 hc1 hts1 hr1 h81 h1 h2 h3 hok
      have := bitsAt_lt _ _ _ _ h3
      exact .of_reaches r4 (clens_ends hR.eoi (hclen + 4) 0 (pos + 3 + 14) (Array.replicate 19 0) c4 hs4 hc4
        (by rw [ht4]; simp) (by omega) hr4 hcl)
    · -- the code-length code is over-subscribed or incomplete
      obtain ⟨c5, r5, hs5, hc5, hbt5, hcl5, _⟩ := sim_dyn_clens (outA := outA) hs1 hc1 hbt1 hts1 hlc1 hr1 h81 h1 h2 h3 hok hcl
      exact .of_reaches r5 ((fails_clenCode hs5 (by omega) hbt5 (by rw [hcl5]; exact hclv)).ends hR.failed)
    · -- the code lengths are not read to the end
      obtain ⟨c6, r6, hs6, hcc6, hts6, _, hrep6, hr6, h86, _, hsz19⟩ :=
        sim_dyn_clenCode (outA := outA) hs1 hc1 hbt1 hts1 hlc1 hr1 h81 h1 h2 h3 hok hcl hclv
      have hR : Refusal P e maxDist ∧ ((∃ w, readLens (mkCode clens) e.inp (hlit + 257 + (hdist + 1)) fuel p1 #[] = .reject w) ∨
          ∃ q, readLens (mkCode clens) e.inp (hlit + 257 + (hdist + 1)) fuel p1 #[] = .truncated q) := by
        cases hl : readLens (mkCode clens) e.inp (hlit + 257 + (hdist + 1)) fuel p1 #[] with
        | accept R => exact absurd hl (hna R)
        | reject w => rw [hl] at hbad; exact ⟨hbad, .inl ⟨w, rfl⟩⟩
        | truncated q => rw [hl] at hbad; exact ⟨hbad, .inr ⟨q, rfl⟩⟩
        | fuel => rw [hl] at hbad; exact hbad.elim
      exact .of_reaches r6 (lens_ends hR.1.eoi hR.1.failed (cl := mkCode clens) rfl hsz19 hclv _ (by omega) fuel p1 #[] c6
        hR.2 hs6 hcc6 (by rw [hts6]; rfl) hrep6 hr6 h86)
    · -- the literal/length or the distance code is over-subscribed or incomplete
      obtain ⟨c7, r7, hs7, hcnt7, hbt7, hex0, hex1, _⟩ :=
        sim_dyn_lens (outA := outA) hs1 hc1 hbt1 hts1 hlc1 hr1 h81 h1 h2 h3 hok hcl hclv hlens
      exact .of_reaches r7 ((fails_litlenDistCode hs7 hcnt7 hbt7 (by rw [hex0, hex1]; exact hv2)).ends hR.failed)
    · -- the tokens
      obtain ⟨c8, r8, hs8, hl8, hd8, hr8, h88, ho8, _, _, _, _, _, hlsz⟩ :=
        sim_dynamic_header (outA := outA) hs1 hc1 hbt1 hts1 hlc1 hr1 h81 h1 h2 h3 hok hcl hclv hlens hvl hvd
      exact .of_reaches r8 (tokens_ends hM hflat hend pre maxDist _ _
        (fun _ _ _ h => prefix_sym_lt hlsz (Nat.le_trans (Nat.le_of_not_lt fun h => hok (.inl h)) (by decide)) h)
        fuel p2 o #[] c8 outA (hsim' hr8 h88 (ho8.trans ho1)) hs8 hl8 hd8 hfit (Decided.map.mp hbad :))
    · -- the reserved block type
      obtain ⟨c1, hrb, _⟩ := readBits_full hsim.rep hv
      have := bitsAt_lt _ _ _ _ hv
      exact (fails_blockType3 hs hrb (by omega)).ends hR.failed

/-! ### The block loop and the call -/

theorem blocks_ends (hM : P stHasMoreOutput) (hflat : e.ring = false) (hend : e.outEnd ≤ e.outLen)
    (hstop : hasFlag e.flags fStopOnBlockBoundary = false) (pre : Array UInt8) (maxDist : Nat) :
    ∀ (fuel pos : Nat) (o : Array UInt8) (bl : Array BlockInfo) (c : Ctx) (outA : Array UInt8),
    c.r.state = sReadBlockHeader → Sim e c outA pos (pre ++ o) → Shape c → pre.size + o.size ≤ e.outEnd →
    Decided (Refusal P e maxDist) (fun R => e.outEnd < pre.size + R.2.1.size)
      (inflateBlocks pre maxDist e.inp fuel pos o bl) →
    EndsIn P e c outA := by
  intro fuel
  induction fuel with
  | zero => intro pos o bl c outA _ _ _ _ hbad; exact hbad.elim
  | succ fuel ih =>
    intro pos o bl c outA hs hsim hsh hfit hbad
    rw [inflateBlocks_succ] at hbad
    have hblk := block_ends (maxDist := maxDist) (fuel := fuel) hM hflat hend hs hsim hsh hfit
    cases hb : inflateBlock pre maxDist e.inp fuel pos o with
    | accept R1 =>
      obtain ⟨p1, o1, info⟩ := R1
      simp only [hb] at hbad
      by_cases hroom1 : pre.size + o1.size ≤ e.outEnd
      · by_cases hf : info.final = true
        · simp only [hf, ↓reduceIte] at hbad
          exact absurd hroom1 (Nat.not_le_of_gt hbad)
        · simp only [hf, Bool.false_eq_true, ↓reduceIte] at hbad
          obtain ⟨c2, outA2, r2, hs2, hsim2, _, sh2⟩ := sim_block_next hflat hend hstop hb hf hs hsim hsh hroom1
          exact .of_reaches r2 (ih p1 o1 _ c2 outA2 hs2 hsim2 sh2 hroom1 hbad)
      · refine hblk ?_
        rw [hb]
        show e.outEnd < pre.size + o1.size
        omega
    | reject w => simp only [hb] at hbad; rw [hb] at hblk; exact hblk hbad
    | truncated p => simp only [hb] at hbad; rw [hb] at hblk; exact hblk hbad
    | fuel => simp only [hb] at hbad; exact hbad.elim

theorem inflateBlocks_ne_fuel (pre : Array UInt8) (maxDist : Nat) (data : Array UInt8) (startBit : Nat) :
    inflateBlocks pre maxDist data (fuelFor data) startBit #[] #[] ≠ .fuel :=
  fun h => inflateSpec_ne_fuel pre maxDist data startBit (by unfold inflateSpec; rw [h])

section call
variable {r : Regs} {inp out : Array UInt8} {outPos budget flags : Nat}

theorem EndsIn.callRun (h : EndsIn P (callEnv inp out outPos budget flags) { r := r, inPos := 0, outPos := outPos } out)
    (hg : badGeometry flags out.size outPos = false) : P (callRun r inp out outPos budget flags).1 :=
  (h _).resolve_left (callRun_ne r inp out outPos budget flags hg)

theorem status_of_more (hg : badGeometry flags out.size outPos = false)
    (h : (callRun r inp out outPos budget flags).1 = stHasMoreOutput) :
    (decompress r inp out outPos budget flags).status = stHasMoreOutput := by
  rw [decompress_eq _ _ _ _ _ _ hg, h]
  exact epilogue_status_of_ne (by decide) (by decide)

theorem call_ends_raw (hM : P stHasMoreOutput) (maxDist : Nat) (hstart : r.state = sStart)
    (hshape : r.rawHeader.size = 4 ∧ r.tableSizes.size = 3 ∧ r.lenCodes.size = 512)
    (hflat : hasFlag flags fNonWrapping = true) (hz : hasFlag flags fParseZlib = false)
    (hstop : hasFlag flags fStopOnBlockBoundary = false) (hpos : outPos ≤ out.size)
    (hbad : Decided (Refusal P (callEnv inp out outPos budget flags) maxDist)
      (fun R => min (outPos + budget) out.size < outPos + R.2.1.size)
      (inflateBlocks (out.extract 0 outPos) maxDist inp (fuelFor inp) 0 #[] #[])) :
    P (callRun r inp out outPos budget flags).1 := by
  obtain ⟨c1, r1, hs1, hsim1, hsh1⟩ := sim_start_raw (e := callEnv inp out outPos budget flags) hstart hshape hz hpos rfl
  have hpre := size_extract_prefix hpos
  refine EndsIn.callRun (.of_reaches r1 (blocks_ends hM (callEnv_ring hflat) callEnv_outEnd_le hstop (out.extract 0 outPos)
    maxDist (fuelFor inp) 0 #[] #[] c1 out hs1 hsim1 hsh1 ?_ ?_)) (badGeometry_flat hflat hpos)
  · rw [hpre]; show outPos + 0 ≤ min (outPos + budget) out.size; omega
  · rw [hpre]; exact hbad

/-- DONE ⇒ VALID, raw DEFLATE into a flat buffer: if the call reports `Done`, the specification does
    not reject the input, does not find it truncated, and what it accepts fits the granted window. -/
theorem done_raw_flat (r : Regs) (inp out : Array UInt8) (outPos budget flags : Nat)
    (hstart : r.state = sStart) (hshape : r.rawHeader.size = 4 ∧ r.tableSizes.size = 3 ∧ r.lenCodes.size = 512)
    (hflat : hasFlag flags fNonWrapping = true) (hz : hasFlag flags fParseZlib = false)
    (hstop : hasFlag flags fStopOnBlockBoundary = false) (hpos : outPos ≤ out.size)
    (hdone : (decompress r inp out outPos budget flags).status = stDone) :
    ∃ res, inflateSpec (out.extract 0 outPos) 32768 inp 0 = .accept res ∧
      outPos + res.out.size ≤ min (outPos + budget) out.size := by
  rw [decompress_eq _ _ _ _ _ _ (badGeometry_flat hflat hpos)] at hdone
  have key := call_ends_raw (P := (· ≠ stDone)) (inp := inp) (budget := budget) (by decide) 32768 hstart hshape hflat hz hstop hpos
  have hR : Refusal (· ≠ stDone) (callEnv inp out outPos budget flags) 32768 :=
    ⟨fun h => done_ne_eoi _ h.symm, by decide, Nat.le_refl _⟩
  unfold inflateSpec
  cases hb : inflateBlocks (out.extract 0 outPos) 32768 inp (fuelFor inp) 0 #[] #[] with
  | accept R =>
    by_cases hroom : outPos + R.2.1.size ≤ min (outPos + budget) out.size
    · exact ⟨_, rfl, hroom⟩
    · rw [hb] at key
      exact absurd (epilogue_done hdone) (key (by show _ < _; omega))
  | reject w => rw [hb] at key; exact absurd (epilogue_done hdone) (key hR)
  | truncated p => rw [hb] at key; exact absurd (epilogue_done hdone) (key hR)
  | fuel => exact absurd hb (inflateBlocks_ne_fuel _ _ _ _)


/-! ### The zlib wrapper -/

theorem zlib_header_ends (hE : P (callEnv inp out outPos budget flags).eoi) (hX : P stFailed) (hstart : r.state = sStart)
    (hz : hasFlag flags fParseZlib = true)
    (hbad : ∀ cmf flg : UInt8, inp[0]? = some cmf → inp[1]? = some flg → zlibHeaderValid cmf.toNat flg.toNat = false) :
    EndsIn P (callEnv inp out outPos budget flags) { r := r, inPos := 0, outPos := outPos } out := by
  obtain ⟨c1, st1, hs1, _, _, _, _, hi1, _⟩ :=
    micro_start_zlib (e := callEnv inp out outPos budget flags) (c := { r := r, inPos := 0, outPos := outPos }) (outA := out)
      hstart hz
  have hi1' : c1.inPos = 0 := hi1
  refine .of_step st1 ?_
  cases h0 : inp[0]? with
  | none =>
    have : step (callEnv inp out outPos budget flags) c1 out = .fin (callEnv inp out outPos budget flags).eoi c1 out := by
      rw [step_ReadZlibCmf hs1]; unfold stReadZlibCmf; rw [hi1']
      show (match inp[0]? with | none => _ | some b => _) = _
      rw [h0]
    exact .of_fin this hE
  | some cmf =>
    refine .of_step (micro_cmf (outA := out) (b := cmf) hs1 (by rw [hi1']; exact h0)) ?_
    generalize hc2 : setState { c1 with r := { c1.r with zHeader0 := cmf.toNat }, inPos := c1.inPos + 1 } sReadZlibFlg = c2
    have hs2 : c2.r.state = sReadZlibFlg := by rw [← hc2]; rfl
    have hi2 : c2.inPos = 1 := by rw [← hc2]; show c1.inPos + 1 = 1; omega
    have hz2 : c2.r.zHeader0 = cmf.toNat := by rw [← hc2]; rfl
    cases h1 : inp[1]? with
    | none =>
      have : step (callEnv inp out outPos budget flags) c2 out = .fin (callEnv inp out outPos budget flags).eoi c2 out := by
        rw [step_ReadZlibFlg hs2]; unfold stReadZlibFlg; rw [hi2]
        show (match inp[1]? with | none => _ | some b => _) = _
        rw [h1]
      exact .of_fin this hE
    | some flg =>
      refine (fails_zlibHeader hs2 (b := flg) ?_ ?_).ends hX
      · rw [hi2]; exact h1
      · rw [hz2]; exact hbad cmf flg h0 h1

theorem call_ends_zlib {cmf flg : UInt8} (hM : P stHasMoreOutput) (maxDist : Nat) (hstart : r.state = sStart)
    (hshape : r.rawHeader.size = 4 ∧ r.tableSizes.size = 3 ∧ r.lenCodes.size = 512)
    (hflat : hasFlag flags fNonWrapping = true) (hz : hasFlag flags fParseZlib = true)
    (hstop : hasFlag flags fStopOnBlockBoundary = false) (hpos : outPos ≤ out.size)
    (h0 : inp[0]? = some cmf) (h1 : inp[1]? = some flg) (hv : zlibHeaderValid cmf.toNat flg.toNat = true)
    (hbad : Decided (Refusal P (callEnv inp out outPos budget flags) maxDist)
      (fun R => min (outPos + budget) out.size < outPos + R.2.1.size)
      (inflateBlocks (out.extract 0 outPos) maxDist inp (fuelFor inp) 16 #[] #[])) :
    P (callRun r inp out outPos budget flags).1 := by
  obtain ⟨c3, r3, hs3, hsim3, hsh3, _⟩ :=
    sim_start_zlib (e := callEnv inp out outPos budget flags) hstart hshape hz (callEnv_ring hflat) hpos rfl h0 h1 hv
  have hpre := size_extract_prefix hpos
  refine EndsIn.callRun (.of_reaches r3 (blocks_ends hM (callEnv_ring hflat) callEnv_outEnd_le hstop (out.extract 0 outPos)
    maxDist (fuelFor inp) 16 #[] #[] c3 out hs3 hsim3 hsh3 ?_ ?_)) (badGeometry_flat hflat hpos)
  · rw [hpre]; show outPos + 0 ≤ min (outPos + budget) out.size; omega
  · rw [hpre]; exact hbad

theorem adler_short_ends (hE : P e.eoi) (hs : c.r.state = sReadAdler32) (hc : c.r.counter = 0) (hnb : c.r.numBits = 0)
    (hle : c.inPos ≤ e.inp.size) (hshort : e.inp.size < c.inPos + 4) : EndsIn P e c outA := by
  refine bytes_short_ends hE (s := sReadAdler32) (fun c hs h4 hnb hb => ?_) (fun c b hs h4 hnb hb => ?_) 4 c hs (by omega) hnb
    hle hshort
  · rw [step_ReadAdler32 hs]; unfold stReadAdler32
    simp only [h4, ↓reduceIte, hnb, ne_eq, not_true_eq_false, hb]
  · obtain ⟨c1, hst, hs1, hc1, hn1, hi1, _⟩ := micro_adler_byte (outA := outA) hs rfl h4 hnb hb
    exact ⟨c1, hst, hs1, hc1, hn1, hi1⟩

theorem trailer_short_ends {cmf flg : UInt8} {maxDist : Nat} {R : Nat × Array UInt8 × Array BlockInfo}
    (hE : P (callEnv inp out outPos budget flags).eoi) (hstart : r.state = sStart)
    (hshape : r.rawHeader.size = 4 ∧ r.tableSizes.size = 3 ∧ r.lenCodes.size = 512)
    (hflat : hasFlag flags fNonWrapping = true) (hz : hasFlag flags fParseZlib = true)
    (hstop : hasFlag flags fStopOnBlockBoundary = false) (hpos : outPos ≤ out.size)
    (h0 : inp[0]? = some cmf) (h1 : inp[1]? = some flg) (hv : zlibHeaderValid cmf.toNat flg.toNat = true)
    (hbl : inflateBlocks (out.extract 0 outPos) maxDist inp (fuelFor inp) 16 #[] #[] = .accept R)
    (hroom : outPos + R.2.1.size ≤ min (outPos + budget) out.size) (hshort : inp.size < (R.1 + 7) / 8 + 4) :
    EndsIn P (callEnv inp out outPos budget flags) { r := r, inPos := 0, outPos := outPos } out := by
  obtain ⟨c3, r3, hs3, hsim3, hsh3, _⟩ :=
    sim_start_zlib (e := callEnv inp out outPos budget flags) hstart hshape hz (callEnv_ring hflat) hpos rfl h0 h1 hv
  have hpre := size_extract_prefix hpos
  obtain ⟨cB, outB, rB, hsB, hsimB, hfB, _⟩ :=
    sim_blocks (callEnv_ring hflat) callEnv_outEnd_le hstop (out.extract 0 outPos) maxDist (fuelFor inp) 16 #[] #[] R c3 out
      hbl hs3 hsim3 hsh3 (by rw [hpre]; exact hroom)
  have hpeB := hsimB.rep.posEq
  have h8B := hsimB.nb8
  obtain ⟨cA, stA, hsA, hcA, hnA, hiA, _⟩ := micro_blockDone_final_zlib (e := callEnv inp out outPos budget flags) (outA := outB) hsB hfB h8B hz
  refine .of_reaches (r3.trans (rB.trans (.of_step stA))) (adler_short_ends hE hsA hcA hnA (by rw [hiA]; exact hsimB.rep.inLe) ?_)
  show inp.size < cA.inPos + 4
  omega

/-- DONE ⇒ VALID, zlib format into a flat buffer. The trailer is part of validity unless the caller
    asked to ignore it. -/
theorem done_zlib_flat (r : Regs) (inp out : Array UInt8) (outPos budget flags : Nat)
    (hstart : r.state = sStart) (hshape : r.rawHeader.size = 4 ∧ r.tableSizes.size = 3 ∧ r.lenCodes.size = 512)
    (hflat : hasFlag flags fNonWrapping = true) (hz : hasFlag flags fParseZlib = true)
    (hstop : hasFlag flags fStopOnBlockBoundary = false) (hpos : outPos ≤ out.size)
    (hdone : (decompress r inp out outPos budget flags).status = stDone) :
    ∃ zr, zlibSpec (out.extract 0 outPos) 32768 inp (!hasFlag flags fIgnoreAdler) = .accept zr ∧
      outPos + zr.inner.out.size ≤ min (outPos + budget) out.size := by
  have hg := badGeometry_flat hflat hpos
  have hrun : (callRun r inp out outPos budget flags).1 = stDone := by
    rw [decompress_eq _ _ _ _ _ _ hg] at hdone; exact epilogue_done hdone
  have hR : Refusal (· ≠ stDone) (callEnv inp out outPos budget flags) 32768 :=
    ⟨fun h => done_ne_eoi _ h.symm, by decide, Nat.le_refl _⟩
  have no : ¬ EndsIn (· ≠ stDone) (callEnv inp out outPos budget flags) { r := r, inPos := 0, outPos := outPos } out :=
    fun h => h.callRun hg hrun
  have nohdr := fun h => no (zlib_header_ends hR.eoi hR.failed hstart hz h)
  unfold zlibSpec inflateSpec
  cases h0 : inp[0]? with
  | none => exact (nohdr (fun _ _ e0 => by rw [h0] at e0; cases e0)).elim
  | some cmf =>
    cases h1 : inp[1]? with
    | none => exact (nohdr (fun _ _ _ e1 => by rw [h1] at e1; cases e1)).elim
    | some flg =>
      cases hv : zlibHeaderValid cmf.toNat flg.toNat with
      | false =>
        refine (nohdr (fun _ _ e0 e1 => ?_)).elim
        rw [h0] at e0; rw [h1] at e1; cases e0; cases e1; exact hv
      | true =>
        have key := call_ends_zlib (P := (· ≠ stDone)) (budget := budget) (by decide) 32768 hstart hshape hflat hz hstop hpos
          h0 h1 hv
        cases hb : inflateBlocks (out.extract 0 outPos) 32768 inp (fuelFor inp) 16 #[] #[] with
        | accept R =>
          rw [hb] at key
          by_cases hroom : outPos + R.2.1.size ≤ min (outPos + budget) out.size
          · by_cases hshort : inp.size < (R.1 + 7) / 8 + 4
            · exact (no (trailer_short_ends hR.eoi hstart hshape hflat hz hstop hpos h0 h1 hv hb hroom hshort)).elim
            · obtain ⟨pos', o', blocks⟩ := R
              have hspec : inflateSpec (out.extract 0 outPos) 32768 inp 16 =
                  .accept { out := o', bitsUsed := pos', blocks := blocks } := by
                unfold inflateSpec; rw [hb]
              simp only at hshort hroom ⊢
              cases ha : inp[(pos' + 7) / 8]? with
              | none => have := Array.getElem?_eq_none_iff.mp ha; omega
              | some a =>
              cases hb1 : inp[(pos' + 7) / 8 + 1]? with
              | none => have := Array.getElem?_eq_none_iff.mp hb1; omega
              | some b =>
              cases hc : inp[(pos' + 7) / 8 + 2]? with
              | none => have := Array.getElem?_eq_none_iff.mp hc; omega
              | some c =>
              cases hd : inp[(pos' + 7) / 8 + 3]? with
              | none => have := Array.getElem?_eq_none_iff.mp hd; omega
              | some d =>
              have hfw := (refine_zlib_flat r inp out outPos budget flags 32768 _ cmf flg a b c d hstart hshape hflat hz hstop
                hpos h0 h1 hv hspec ha hb1 hc hd hroom).1
              rw [hdone] at hfw
              rw [if_neg (by rw [hv]; decide)]
              by_cases hmis : hasFlag flags fIgnoreAdler = false ∧
                  adler32 1 o'.toList ≠ ((a.toNat * 256 + b.toNat) * 256 + c.toNat) * 256 + d.toNat
              · rw [if_pos hmis] at hfw
                exact absurd hfw (by decide)
              · have hok : ¬ (!hasFlag flags fIgnoreAdler && decide (((a.toNat * 256 + b.toNat) * 256 + c.toNat) * 256 + d.toNat ≠
                    adler32 1 o'.toList)) = true := by
                  intro h
                  simp only [Bool.and_eq_true, Bool.not_eq_true', decide_eq_true_eq] at h
                  exact hmis ⟨h.1, fun e => h.2 e.symm⟩
                simp only [hok]
                exact ⟨_, rfl, hroom⟩
          · exact absurd hrun (key (by show _ < _; omega))
        | reject w => rw [hb] at key; exact absurd hrun (key hR)
        | truncated p => rw [hb] at key; exact absurd hrun (key hR)
        | fuel => exact absurd hb (inflateBlocks_ne_fuel _ _ _ _)

end call
end Model.Core
