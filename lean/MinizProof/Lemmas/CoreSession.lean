/-
Two consecutive calls of `Model.Core.decompress` against the single call, at the level of call
results: the epilogue (give-back of read-ahead bytes, status override, per-call Adler-32, trailer
comparison) of the re-based run, and the composition theorem `decompress_resume`.
No property statements here (see Props/C07).
-/
import MinizProof.Lemmas.CoreCalls
import MinizProof.Lemmas.Checksum
namespace Model.Core
open Spec

theorem extract_frame (o1 o2 : Array UInt8) (pos m : Nat) (hs : o2.size = o1.size)
    (hfr : ∀ i, i < m → o2[i]? = o1[i]?) : o2.extract pos m = o1.extract pos m := by
  apply Array.ext_getElem?
  intro i
  rw [Array.getElem?_extract, Array.getElem?_extract, hs]
  split
  · exact hfr _ (by omega)
  · rfl

theorem extract_cat (o : Array UInt8) (pos m e : Nat) (h1 : pos ≤ m) (h2 : m ≤ e) :
    o.extract pos e = o.extract pos m ++ o.extract m e := by
  rw [Array.extract_append_extract, Nat.min_eq_left h1, Nat.max_eq_right h2]

/-- a second call that is granted at least what the first was ends its window no earlier -/
theorem window_le {p q b1 b2 n : Nat} (h : p ≤ q) (hb : b1 ≤ q - p + b2) : min (p + b1) n ≤ min (q + b2) n := by
  have : p + b1 ≤ q + b2 := by rw [← Nat.add_sub_cancel' h, Nat.add_assoc]; exact Nat.add_le_add_left hb p
  exact Nat.le_min.mpr ⟨Nat.le_trans (Nat.min_le_left _ _) this, Nat.min_le_right _ _⟩

theorem sub_split {p m q : Nat} (h1 : p ≤ m) (h2 : m ≤ q) : q - p = (m - p) + (q - m) := by
  rw [Nat.add_comm, Nat.sub_add_sub_cancel h2 h1]

theorem exitUndo_zero {st : Int} {c : Ctx} {flags : Nat} (h : st = endOfInput flags ∨ Q c) : exitUndo st c = 0 := by
  rcases h with h | h
  · exact exitUndo_starved (h ▸ endOfInput_cases flags)
  · exact iteInduction (motive := (· = 0)) (fun _ => rfl) fun _ => by rw [Nat.div_eq_of_lt h]; exact Nat.zero_min _

/-- The epilogue over the re-based final context of the single call against the epilogue of the
    second call. `m`: where the second call started writing; `y`: the checksum register the first
    call started from; the second call's register holds the first call's contribution. -/
theorem epilogue_rebase (flags pos m E : Nat) (st : Int) (c2 : Ctx) (out1 out2 : Array UInt8) (k y : Nat)
    (hpm : pos ≤ m) (hm : m ≤ c2.outPos) (hs : out2.size = out1.size)
    (hfr : ∀ i, i < m → out2[i]? = out1[i]?)
    (hchk : c2.r.checkAdler32 = if needAdler flags then adler32 y (out1.extract pos m).toList else y)
    (hq : st = endOfInput flags ∨ Q c2) :
    (epilogue flags pos E st (T k y c2) out2).status = (epilogue flags m E st c2 out2).status ∧
    (epilogue flags pos E st (T k y c2) out2).out = (epilogue flags m E st c2 out2).out ∧
    (epilogue flags pos E st (T k y c2) out2).written = (m - pos) + (epilogue flags m E st c2 out2).written ∧
    (epilogue flags pos E st (T k y c2) out2).consumed = k + (epilogue flags m E st c2 out2).consumed ∧
    ((0 ≤ exitStatus st c2 E ∨ needAdler flags = false) →
      (epilogue flags pos E st (T k y c2) out2).r = (epilogue flags m E st c2 out2).r) := by
  have hu : exitUndo st c2 = 0 := exitUndo_zero hq
  have hu' : exitUndo st (T k y c2) = 0 := exitUndo_zero (flags := flags) (hq.elim Or.inl fun h => Or.inr h)
  have hst : exitStatus st (T k y c2) E = exitStatus st c2 E := rfl
  have hregs : exitRegs st (T k y c2) = { exitRegs st c2 with checkAdler32 := y } := by
    unfold exitRegs
    rw [hu, hu']
    rfl
  have hcat : (out2.extract pos c2.outPos).toList = (out1.extract pos m).toList ++ (out2.extract m c2.outPos).toList := by
    rw [extract_cat out2 pos m c2.outPos hpm hm, extract_frame out1 out2 pos m hs hfr, Array.toList_append]
  suffices h : (epilogue flags pos E st (T k y c2) out2).status = (epilogue flags m E st c2 out2).status ∧
      ((0 ≤ exitStatus st c2 E ∨ needAdler flags = false) →
        (epilogue flags pos E st (T k y c2) out2).r = (epilogue flags m E st c2 out2).r) from
    ⟨h.1, by rw [epilogue_out, epilogue_out], by rw [epilogue_written, epilogue_written]; exact sub_split hpm hm,
      by rw [epilogue_consumed, epilogue_consumed, hu, hu']; rfl, h.2⟩
  by_cases hn : (needAdler flags && decide (exitStatus st c2 E ≥ 0)) = true
  · rw [show epilogue flags pos E st (T k y c2) out2 = _ from if_pos hn, show epilogue flags m E st c2 out2 = _ from if_pos hn]
    have hna : needAdler flags = true := by
      simp only [Bool.and_eq_true] at hn; exact hn.1
    have hc2 : (exitRegs st c2).checkAdler32 = adler32 y (out1.extract pos m).toList := by
      show c2.r.checkAdler32 = _
      rw [hchk, if_pos hna]
    dsimp only
    rw [hregs]
    dsimp only
    rw [hc2, Spec.adler32_append, ← hcat]
    exact ⟨rfl, fun _ => rfl⟩
  · rw [show epilogue flags pos E st (T k y c2) out2 = _ from if_neg hn, show epilogue flags m E st c2 out2 = _ from if_neg hn]
    refine ⟨rfl, fun hcond => ?_⟩
    dsimp only
    have hna : needAdler flags = false := by
      rcases hcond with h | h
      · simp only [Bool.and_eq_true, decide_eq_true_eq, not_and] at hn
        by_cases hq : needAdler flags = true
        · exact absurd h (hn hq)
        · simpa using hq
      · exact h
    have : (exitRegs st c2).checkAdler32 = y := by
      show c2.r.checkAdler32 = y
      rw [hchk, hna]; rfl
    rw [hregs, ← this]

theorem exitRegs_tight {st : Int} {c : Ctx} (hB : B c) (hu : exitUndo st c = 0) (hbb : st ≠ stBlockBoundary) :
    exitRegs st c = c.r := by
  unfold exitRegs exitState
  rw [hu]
  have : (st == stBlockBoundary) = false := by simpa using hbb
  rw [this]
  show ({ c.r with numBits := c.r.numBits - 8 * 0, bitBuf := c.r.bitBuf % 2 ^ (c.r.numBits - 8 * 0), state := c.r.state } : Regs) = c.r
  rw [Nat.mul_zero, Nat.sub_zero, Nat.mod_eq_of_lt hB]

theorem suspending_ne {flags : Nat} {st : Int} (h : st = endOfInput flags ∨ st = stHasMoreOutput) :
    st ≠ stFailed ∧ st ≠ stBlockBoundary := by
  rcases h with h | h
  · rcases endOfInput_cases flags with h' | h' <;> rw [h, h'] <;> decide
  · rw [h]; decide

theorem FinOK.status {e : Env} {st : Int} {c : Ctx} (h : FinOK e st c) :
    st = e.eoi ∨ st = stHasMoreOutput ∨ st = stDone ∨ st = stFailed ∨ st = stBlockBoundary := by
  rcases h with h | h | h | h | h
  · exact .inr (.inl h.1)
  · exact .inl h.1
  · exact .inr (.inr (.inl h.1))
  · exact .inr (.inr (.inr (.inl h.1)))
  · exact .inr (.inr (.inr (.inr h.1)))

theorem FinOK.nonneg {e : Env} {st : Int} {c : Ctx} (h : FinOK e st c) (hf : st ≠ stFailed)
    (hp : st ≠ stFailedCannotMakeProgress) : 0 ≤ st := by
  rcases h.status with h | h | h | h | h
  · rcases eoi_cases e with h' | h'
    · rw [h, h']; decide
    · exact absurd (h.trans h') hp
  · rw [h]; decide
  · rw [h]; decide
  · exact absurd h hf
  · rw [h]; decide

theorem raw_of_status (flags : Nat) {pos E : Nat} {st : Int} {c : Ctx} {out : Array UInt8} (e : Env)
    (he : e.eoi = endOfInput flags) (hf : FinOK e st c)
    (hs : (epilogue flags pos E st c out).status = stNeedsMoreInput ∨
          (epilogue flags pos E st c out).status = stHasMoreOutput) :
    (st = endOfInput flags ∨ st = stHasMoreOutput) ∧ 0 ≤ exitStatus st c E := by
  have hes : (epilogue flags pos E st c out).status = exitStatus st c E :=
    (epilogue_status flags pos E st c out).resolve_right fun h => by
      rcases hs with hs | hs <;> exact absurd (h.1.symm.trans hs) (by decide)
  rw [hes] at hs
  refine ⟨?_, by rcases hs with h | h <;> (rw [h]; decide)⟩
  have hnmi : st = stNeedsMoreInput → st = endOfInput flags := fun h => by
    rcases hf.status with h' | h' | h' | h' | h'
    · exact h'.trans he
    all_goals exact absurd (h.symm.trans h') (by decide)
  rcases exitStatus_cases st c E with h | h
  · rw [h] at hs
    exact hs.imp_left hnmi
  · exact .inl (hnmi h.2.1)

theorem epilogue_suspended {flags pos E : Nat} {st : Int} {c : Ctx} {out : Array UInt8} {e : Env}
    (hri : RunI e st c) (he : e.eoi = endOfInput flags) (hst : st = endOfInput flags ∨ st = stHasMoreOutput)
    (hge : 0 ≤ exitStatus st c E) :
    (epilogue flags pos E st c out).consumed = c.inPos ∧
    (epilogue flags pos E st c out).r = { c.r with checkAdler32 := (epilogue flags pos E st c out).r.checkAdler32 } ∧
    (epilogue flags pos E st c out).r.checkAdler32 =
      (if needAdler flags then adler32 c.r.checkAdler32 (out.extract pos c.outPos).toList else c.r.checkAdler32) ∧
    Bnd (epilogue flags pos E st c out).r := by
  have hu : exitUndo st c = 0 := exitUndo_zero (flags := flags) (he ▸ hri.undo (suspending_ne hst).1)
  have h : (epilogue flags pos E st c out).r =
      { c.r with
        checkAdler32 := if needAdler flags then adler32 c.r.checkAdler32 (out.extract pos c.outPos).toList
          else c.r.checkAdler32 } := by
    rw [epilogue_r, exitRegs_tight hri.1.1.1 hu (suspending_ne hst).2, decide_eq_true hge, Bool.and_true]
  exact ⟨by rw [epilogue_consumed, hu]; rfl, by rw [h], congrArg Regs.checkAdler32 h, h ▸ hri.bnd (he ▸ hst) _⟩

/-- TWO CALLS AGAINST ONE. `res1`: a call on `a` that reports "needs more input" or "has more
    output"; `res2`: the next call, on the unconsumed rest of `a` followed by `b`, writing where the
    first stopped, with a window that ends no earlier; `res`: the single call on `a ++ b` with that
    final window. Same status, same buffer, written counts add up; unless the stream fails, consumed
    counts add up; unless it fails or is truncated without the more-input flag, the registers agree. -/
theorem decompress_resume (r : Regs) (a b out : Array UInt8) (pos budget1 budget2 flags : Nat)
    (hb : Bnd r) (hg : badGeometry flags out.size pos = false)
    (hs : (decompress r a out pos budget1 flags).status = stNeedsMoreInput ∨
          (decompress r a out pos budget1 flags).status = stHasMoreOutput)
    (hbud : budget1 ≤ (decompress r a out pos budget1 flags).written + budget2) :
    let res1 := decompress r a out pos budget1 flags
    let res2 := decompress res1.r (a.extract res1.consumed a.size ++ b) res1.out (pos + res1.written) budget2 flags
    let res := decompress r (a ++ b) out pos (res1.written + budget2) flags
    res.status = res2.status ∧ res.out = res2.out ∧ res.written = res1.written + res2.written ∧
    (res.status ≠ stFailed → res.consumed = res1.consumed + res2.consumed) ∧
    (res.status ≠ stFailed → res.status ≠ stFailedCannotMakeProgress → res.r = res2.r) ∧
    Bnd res1.r ∧
    (res2.status = stNeedsMoreInput ∨ res2.status = stHasMoreOutput → Bnd res2.r) := by
  intro res1 res2 res
  have hres1 : res1 = epilogue flags pos (min (pos + budget1) out.size) (callRun r a out pos budget1 flags).1
      (callRun r a out pos budget1 flags).2.1 (callRun r a out pos budget1 flags).2.2 := decompress_eq r a out pos budget1 flags hg
  have hfin1 := callRun_fin r a out pos budget1 flags hg
  have hadv1 := callRun_adv r a out pos budget1 flags hg
  generalize hR1 : callRun r a out pos budget1 flags = R1 at hres1 hfin1 hadv1
  obtain ⟨st1, c1, out1⟩ := R1
  dsimp only at hres1 hfin1 hadv1
  have hs' : res1.status = stNeedsMoreInput ∨ res1.status = stHasMoreOutput := hs
  rw [hres1] at hs'
  obtain ⟨hst, hge1⟩ := raw_of_status flags (callEnv a out pos budget1 flags) rfl hfin1 hs'
  have hw1 : res1.written = c1.outPos - pos := by rw [hres1, epilogue_written]
  have hE : min (pos + budget1) out.size ≤ min (c1.outPos + budget2) out.size :=
    window_le hadv1.mono (by rw [← hw1]; exact hbud)
  obtain ⟨hsz, hmono, hk, hgeo2, hri1, hO, hchk2, hri2⟩ :=
    calls_compose r a b out pos budget1 budget2 flags res1.r.checkAdler32 hb hg st1 c1 out1 hR1 hst hE
  have hsus1 := epilogue_suspended (flags := flags) (pos := pos) (out := out1) hri1 rfl hst hge1
  rw [← hres1] at hsus1
  obtain ⟨hc1, hr1, hx1, hBnd1⟩ := hsus1
  have ho1 : res1.out = out1 := by rw [hres1, epilogue_out]
  -- the second call and the single call as epilogues of their runs
  have hpw : pos + res1.written = c1.outPos := by rw [hw1]; exact Nat.add_sub_cancel' hmono
  have hres2 : res2 = decompress { c1.r with checkAdler32 := res1.r.checkAdler32 }
      (a.extract c1.inPos a.size ++ b) out1 c1.outPos budget2 flags := by
    show decompress res1.r (a.extract res1.consumed a.size ++ b) res1.out (pos + res1.written) budget2 flags = _
    rw [hc1, ho1, hpw, ← hr1]
  rw [decompress_eq _ _ _ _ _ _ hgeo2] at hres2
  have hres : res = decompress r (a ++ b) out pos (c1.outPos - pos + budget2) flags := by
    show decompress r (a ++ b) out pos (res1.written + budget2) flags = _
    rw [hw1]
  rw [decompress_eq _ _ _ _ _ _ hg, hO] at hres
  dsimp only at hres
  have hfin2 := callRun_fin { c1.r with checkAdler32 := res1.r.checkAdler32 } (a.extract c1.inPos a.size ++ b) out1
    c1.outPos budget2 flags hgeo2
  generalize hR2 : callRun { c1.r with checkAdler32 := res1.r.checkAdler32 } (a.extract c1.inPos a.size ++ b) out1
    c1.outPos budget2 flags = R2 at hres hres2 hchk2 hri2 hfin2
  obtain ⟨st2, c2, out2⟩ := R2
  dsimp only at hres hres2 hchk2 hri2 hfin2
  have hEO : min (pos + (c1.outPos - pos + budget2)) out.size = min (c1.outPos + budget2) out1.size := by
    rw [hsz, add_sub_add_of_le hmono]
  rw [hEO] at hres
  have hadv2 := callRun_adv { c1.r with checkAdler32 := res1.r.checkAdler32 } (a.extract c1.inPos a.size ++ b) out1
    c1.outPos budget2 flags hgeo2
  rw [hR2] at hadv2
  have hm2 : c1.outPos ≤ c2.outPos := hadv2.mono
  have hs2 : out2.size = out1.size := hadv2.frame.1
  have hfr2 : ∀ i, i < c1.outPos → out2[i]? = out1[i]? := fun i hi => hadv2.frame.2 i (Or.inl hi)
  by_cases hF : st2 = stFailed
  · -- a failed stream: status, buffer and written count only
    have e1 : res.status = stFailed := by rw [hres, hF, epilogue_failed]
    have e2 : res2.status = stFailed := by rw [hres2, hF, epilogue_failed]
    refine ⟨by rw [e1, e2], by rw [hres, hres2, epilogue_out, epilogue_out],
      by rw [hres, hres2, hw1, epilogue_written, epilogue_written]; exact sub_split hmono hm2,
      fun h => absurd e1 h, fun h => absurd e1 h, hBnd1, fun h => ?_⟩
    rw [e2] at h
    rcases h with h | h <;> exact absurd h (by decide)
  · have hq2 : st2 = endOfInput flags ∨ Q c2 := hri2.undo hF
    have hreb := epilogue_rebase flags pos c1.outPos (min (c1.outPos + budget2) out1.size) st2 c2 out1 out2
      c1.inPos c1.r.checkAdler32 hmono hm2 hs2 hfr2 (by rw [hchk2]; exact hx1) hq2
    rw [← hres, ← hres2] at hreb
    obtain ⟨a1, a2, a3, a4, a5⟩ := hreb
    have hstat2 := epilogue_status flags c1.outPos (min (c1.outPos + budget2) out1.size) st2 c2 out2
    rw [← hres2] at hstat2
    refine ⟨a1, a2, by rw [a3, hw1], fun _ => by rw [a4, hc1], ?_, hBnd1, ?_⟩
    · intro hnf hnp
      apply a5
      -- the status is not one of the two failures, so the exit status is not negative
      rcases hstat2 with h | ⟨_, h⟩
      · rw [a1, h] at hnf hnp
        rcases exitStatus_cases st2 c2 (min (c1.outPos + budget2) out1.size) with h2 | h2
        · rw [h2] at hnf hnp ⊢
          exact .inl (hfin2.nonneg hnf hnp)
        · exact .inl (by rw [h2.1]; decide)
      · exact .inl (by rw [h]; decide)
    · intro hcont
      -- the second call suspended: its registers keep the discipline
      obtain ⟨hst2, hge2⟩ := raw_of_status flags (callEnv (a.extract c1.inPos a.size ++ b) out1 c1.outPos budget2 flags)
        rfl hfin2 (by rw [← hres2]; exact hcont)
      rw [hres2]
      exact (epilogue_suspended (flags := flags) hri2 rfl hst2 hge2).2.2.2

theorem decompress_bnd (r : Regs) (a out : Array UInt8) (pos budget flags : Nat)
    (hb : Bnd r) (hg : badGeometry flags out.size pos = false)
    (hs : (decompress r a out pos budget flags).status = stNeedsMoreInput ∨
          (decompress r a out pos budget flags).status = stHasMoreOutput) :
    Bnd (decompress r a out pos budget flags).r :=
  (decompress_resume r a #[] out pos budget budget flags hb hg hs (Nat.le_add_left _ _)).2.2.2.2.2.1

/-- A driver's sequence of calls: each call is offered the bytes the previous call left unconsumed
    followed by a new chunk, writes where the previous call stopped, and may fill the buffer up to
    `pos0 + g` (`g`: the total output grant so far, counted from the first call's position). -/
def runCalls (flags pos0 : Nat) : Regs → Array UInt8 → Nat → Array UInt8 → List (Array UInt8 × Nat) → List Res
  | _, _, _, _, [] => []
  | r, out, pos, carry, (chunk, g) :: rest =>
    let res := decompress r (carry ++ chunk) out pos (pos0 + g - pos) flags
    res :: runCalls flags pos0 res.r res.out (pos + res.written)
      ((carry ++ chunk).extract res.consumed (carry ++ chunk).size) rest

def catChunks : List (Array UInt8 × Nat) → Array UInt8
  | [] => #[]
  | (chunk, _) :: rest => chunk ++ catChunks rest

def lastGrant : List (Array UInt8 × Nat) → Nat
  | [] => 0
  | [(_, g)] => g
  | _ :: c :: rest => lastGrant (c :: rest)

def sumWritten (rs : List Res) : Nat := (rs.map (·.written)).sum
def sumConsumed (rs : List Res) : Nat := (rs.map (·.consumed)).sum

theorem sumWritten_cons (r : Res) (rs : List Res) : sumWritten (r :: rs) = r.written + sumWritten rs := List.sum_cons
theorem sumConsumed_cons (r : Res) (rs : List Res) : sumConsumed (r :: rs) = r.consumed + sumConsumed rs := List.sum_cons

def suspended (res : Res) : Prop := res.status = stNeedsMoreInput ∨ res.status = stHasMoreOutput

def grantsMono : List (Array UInt8 × Nat) → Prop
  | [] => True
  | [_] => True
  | (_, g1) :: (c2, g2) :: rest => g1 ≤ g2 ∧ grantsMono ((c2, g2) :: rest)

theorem grantsMono_head_le_last : ∀ (calls : List (Array UInt8 × Nat)) (c : Array UInt8) (g : Nat),
    grantsMono ((c, g) :: calls) → g ≤ lastGrant ((c, g) :: calls) := by
  intro calls
  induction calls with
  | nil => intro c g _; exact Nat.le_refl _
  | cons hd tl ih =>
    intro c g h
    obtain ⟨c2, g2⟩ := hd
    exact Nat.le_trans h.1 (ih c2 g2 h.2)

/-- the room left under the last grant, seen from the first call and from the second -/
theorem grant_split {pos0 g G pos w : Nat} (hw : w ≤ pos0 + g - pos) (hg : g ≤ G) :
    pos0 + G - pos = w + (pos0 + G - (pos + w)) := by
  rw [Nat.sub_add_eq, Nat.add_sub_cancel' (Nat.le_trans hw (Nat.sub_le_sub_right (Nat.add_le_add_left hg _) _))]

/-- ANY NUMBER OF CALLS AGAINST ONE. If every call but the last reports "needs more input" or "has
    more output", the last call's result is the result of the single call on all the input offered,
    with the final grant: same status, same buffer; the written counts add up; unless the stream
    fails the consumed counts add up; unless it fails or is truncated without the more-input flag the
    registers agree. -/
theorem runCalls_last (flags pos0 : Nat) : ∀ (calls : List (Array UInt8 × Nat)) (r : Regs) (out : Array UInt8)
    (pos : Nat) (carry : Array UInt8) (c : Array UInt8) (g : Nat),
    Bnd r → badGeometry flags out.size pos = false → grantsMono ((c, g) :: calls) →
    (∀ res ∈ (runCalls flags pos0 r out pos carry ((c, g) :: calls)).dropLast, suspended res) →
    ∀ last, (runCalls flags pos0 r out pos carry ((c, g) :: calls)).getLast? = some last →
    let one := decompress r (carry ++ catChunks ((c, g) :: calls)) out pos (pos0 + lastGrant ((c, g) :: calls) - pos) flags
    one.status = last.status ∧ one.out = last.out ∧
    one.written = sumWritten (runCalls flags pos0 r out pos carry ((c, g) :: calls)) ∧
    (one.status ≠ stFailed → one.consumed = sumConsumed (runCalls flags pos0 r out pos carry ((c, g) :: calls))) ∧
    (one.status ≠ stFailed → one.status ≠ stFailedCannotMakeProgress → one.r = last.r) := by
  intro calls
  induction calls with
  | nil =>
    intro r out pos carry c g _ _ _ _ last hlast
    simp only [runCalls, List.getLast?_singleton, Option.some.injEq] at hlast
    subst hlast
    have hc : carry ++ catChunks [(c, g)] = carry ++ c := by simp [catChunks]
    rw [hc]
    exact ⟨rfl, rfl, rfl, fun _ => rfl, fun _ _ => rfl⟩
  | cons hd tl ih =>
    intro r out pos carry c g hb hg hmono hsus last hlast
    obtain ⟨c2, g2⟩ := hd
    have hgl : g ≤ lastGrant ((c2, g2) :: tl) := Nat.le_trans hmono.1 (grantsMono_head_le_last tl c2 g2 hmono.2)
    have hfacts := decompress_facts r (carry ++ c) out pos (pos0 + g - pos) flags
    have hres := decompress_resume r (carry ++ c) (catChunks ((c2, g2) :: tl)) out pos (pos0 + g - pos)
      (pos0 + lastGrant ((c2, g2) :: tl) - (pos + (decompress r (carry ++ c) out pos (pos0 + g - pos) flags).written))
      flags hb hg
    have hinp : carry ++ catChunks ((c, g) :: (c2, g2) :: tl) = (carry ++ c) ++ catChunks ((c2, g2) :: tl) :=
      (Array.append_assoc ..).symm
    rw [runCalls] at hsus hlast ⊢
    rw [hinp]
    generalize decompress r (carry ++ c) out pos (pos0 + g - pos) flags = res1 at hsus hlast hfacts hres ⊢
    dsimp only at hsus hlast hres ⊢
    have hIH := ih res1.r res1.out (pos + res1.written) ((carry ++ c).extract res1.consumed (carry ++ c).size) c2 g2
    have hne : runCalls flags pos0 res1.r res1.out (pos + res1.written)
        ((carry ++ c).extract res1.consumed (carry ++ c).size) ((c2, g2) :: tl) ≠ [] := by
      rw [runCalls]; exact List.cons_ne_nil _ _
    generalize runCalls flags pos0 res1.r res1.out (pos + res1.written)
      ((carry ++ c).extract res1.consumed (carry ++ c).size) ((c2, g2) :: tl) = rest at hsus hlast hIH hne ⊢
    obtain ⟨x, xs, rfl⟩ := List.exists_cons_of_ne_nil hne
    rw [List.dropLast_cons_of_ne_nil hne] at hsus
    rw [List.getLast?_cons_cons] at hlast
    have hwb : res1.written ≤ pos0 + g - pos := hfacts.wBudget
    -- the first call is not the last one: it is suspended; the second "call" of the two-call theorem
    -- is the single call that stands for all later calls
    obtain ⟨e1, e2, e3, e4, e5, hb1, _⟩ := hres (hsus _ List.mem_cons_self)
      (by rw [← grant_split hwb hgl]; exact Nat.sub_le_sub_right (Nat.add_le_add_left hgl _) _)
    have hg1 : badGeometry flags res1.out.size (pos + res1.written) = false :=
      hfacts.size ▸ badGeometry_le hg (Nat.add_le_of_le_sub' (badGeometry_false.mp hg).2 hfacts.room)
    obtain ⟨i1, i2, i3, i4, i5⟩ := hIH hb1 hg1 hmono.2 (fun res hmem => hsus res (List.mem_cons_of_mem _ hmem)) last hlast
    rw [show pos0 + lastGrant ((c, g) :: (c2, g2) :: tl) - pos =
      res1.written + (pos0 + lastGrant ((c2, g2) :: tl) - (pos + res1.written)) from grant_split hwb hgl,
      sumWritten_cons, sumConsumed_cons]
    refine ⟨e1.trans i1, e2.trans i2, by rw [e3, i3], fun hnf => ?_, fun hnf hnp => ?_⟩
    · rw [e4 hnf, i4 (by rw [← e1]; exact hnf)]
    · rw [e5 hnf hnp]
      exact i5 (by rw [← e1]; exact hnf) (by rw [← e1]; exact hnp)

theorem Bnd_fresh : Bnd ({} : Regs) := by
  refine ⟨⟨by show (0 : Nat) < 2 ^ 0; decide, ⟨fun buf m _ => ?_, fun i => ?_⟩⟩, Z_of (s := sStart) rfl (fun _ => rfl) (fun _ => Or.inl rfl), Or.inl (by show (0 : Nat) < 8; decide)⟩
  · show decodeBuf { count := #[], syms := #[] } buf m ≠ .short
    unfold decodeBuf decodeBufAux
    simp
  · show (Array.replicate 19 0).getD i 0 ≤ 7
    simp only [Array.getD_eq_getD_getElem?, Array.getElem?_replicate]
    split <;> simp

end Model.Core
