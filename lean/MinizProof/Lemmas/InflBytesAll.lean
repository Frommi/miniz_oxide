/-
The byte-level wrapper model for EVERY input (valid or not) and every reachable window state: counts
never exceed what was offered, the window geometry is kept, a recorded failure makes every later call
fail the same way without touching anything. Helper lemmas for Props/C13.
-/
import MinizProof.Lemmas.InflBytes
import MinizProof.Props.C05
namespace Model.Core
open Spec Model.InflB

theorem loopNone_counts (flags origIn : Nat) : ∀ (fuel : Nat) (w : WB) (inp : Array UInt8) (room c : Nat) (acc : Array UInt8),
    WGeo w →
    WGeo (loopNone flags origIn fuel w inp room c acc).1 ∧
    (∃ n, (loopNone flags origIn fuel w inp room c acc).2.consumed = c + n ∧ n ≤ inp.size) ∧
    (∃ new, (loopNone flags origIn fuel w inp room c acc).2.out = acc ++ new ∧ new.size ≤ room) := by
  intro fuel
  induction fuel with
  | zero => intro w inp room c acc hg; exact ⟨hg, ⟨0, rfl, Nat.zero_le _⟩, ⟨#[], Array.append_empty.symm, Nat.zero_le _⟩⟩
  | succ fuel ih =>
    intro w inp room c acc hg
    have hcons := (decompress_facts w.r inp w.dict w.ofs (dictSize - w.ofs) flags).consumed
    have hgeo1 := hg.call inp flags
    generalize hres : decompress w.r inp w.dict w.ofs (dictSize - w.ofs) flags = rs at hcons hgeo1
    obtain ⟨hgeo2, _, _, hbsz, _, _⟩ := push_split hgeo1 room
    generalize hp : push { w with r := rs.r, dict := rs.out, last := rs.status, avail := rs.written } room = pr at hgeo2 hbsz
    obtain ⟨bytes, w2⟩ := pr
    dsimp only at hgeo2 hbsz
    have hbr : bytes.size ≤ room := hbsz ▸ Nat.min_le_right _ _
    rw [loopNone_succ hres hp]
    cases loopExit origIn rs.status w2.avail (inp.extract rs.consumed inp.size).size (room - bytes.size) with
    | some k => exact ⟨hgeo2, ⟨rs.consumed, rfl, hcons⟩, ⟨bytes, rfl, hbr⟩⟩
    | none =>
      rw [Option.elim_none]
      obtain ⟨g', ⟨n, hn, hnl⟩, ⟨new, ho, hnr⟩⟩ := ih w2 (inp.extract rs.consumed inp.size) (room - bytes.size)
        (c + rs.consumed) (acc ++ bytes) hgeo2
      refine ⟨g', ⟨rs.consumed + n, by rw [hn, Nat.add_assoc], ?_⟩, ⟨bytes ++ new, by rw [ho, Array.append_assoc], ?_⟩⟩
      · rw [Array.size_extract] at hnl; omega
      · rw [Array.size_append]; omega

theorem inflateNone_counts (flags : Nat) (w : WB) (inp : Array UInt8) (room : Nat) (hg : WGeo w) :
    WGeo (inflateNone flags w inp room).1 ∧ (inflateNone flags w inp room).2.consumed ≤ inp.size ∧
    (inflateNone flags w inp room).2.out.size ≤ room := by
  by_cases hf : w.last < 0
  · rw [inflateNone_failed flags inp room hf]; exact ⟨hg, Nat.zero_le _, Nat.zero_le _⟩
  by_cases ha : w.avail = 0
  · rw [inflateNone_loop flags inp room hf ha]
    obtain ⟨g', ⟨n, hn, hnl⟩, ⟨new, ho, hnr⟩⟩ := loopNone_counts flags inp.size (inp.size + room + 2) w inp room 0 #[] hg
    exact ⟨g', by rw [hn]; omega, by rw [ho, Array.empty_append]; exact hnr⟩
  · rw [inflateNone_pending flags inp room hf ha]
    obtain ⟨hgeo2, _, _, hbsz, _, _⟩ := push_split hg room
    exact ⟨hgeo2, Nat.zero_le _, hbsz ▸ Nat.min_le_right _ _⟩

theorem inflateNone_failed_sticky (flags : Nat) (w : WB) (inp : Array UInt8) (room : Nat) (hf : w.last < 0) :
    (inflateNone flags w inp room).1 = w ∧ (inflateNone flags w inp room).2.consumed = 0 ∧
    (inflateNone flags w inp room).2.out = #[] ∧
    (inflateNone flags w inp room).2.status = (if w.last = stFailedCannotMakeProgress then rBuf else rData) := by
  rw [inflateNone_failed flags inp room hf]; exact ⟨rfl, rfl, rfl, rfl⟩

/-- `inflateNone_counts` along a session: the geometry it returns is the geometry the next call needs. -/
theorem runInfl_counts (flags : Nat) : ∀ (calls : List (Array UInt8 × Nat)) (w : WB) (carry : Array UInt8), WGeo w →
    ∀ x ∈ runInfl flags w carry calls, x.2.2.consumed ≤ x.1 ∧ x.2.2.out.size ≤ x.2.1 := by
  intro calls
  induction calls with
  | nil => intro w carry _ x hx; simp [runInfl] at hx
  | cons cr rest ih =>
    intro w carry hg x hx
    obtain ⟨chunk, room⟩ := cr
    obtain ⟨g', hc, ho⟩ := inflateNone_counts flags w (carry ++ chunk) room hg
    unfold runInfl at hx
    generalize hcall : inflateNone flags w (carry ++ chunk) room = cr at hx g' hc ho
    obtain ⟨w', r⟩ := cr
    dsimp only at hx g' hc ho
    rcases List.mem_cons.mp hx with h | h
    · rw [h]; exact ⟨hc, ho⟩
    · exact ih w' _ g' x h

/-- PROGRESS FOR EVERY INPUT: a call that is offered input and room, on a state that has not failed,
    either consumes something, hands something over, or returns a terminal result (stream end, data
    error, buffer error) — whatever the bytes are. With the classification of C05 (a call ends in one of
    eight statuses; "block boundary" only under its flag) and the decoder's own progress facts (C08:
    "needs more input" means all input was consumed, "has more output" means the window is full). -/
theorem inflateNone_progress (flags : Nat) (hstop : hasFlag flags fStopOnBlockBoundary = false) (w : WB)
    (inp : Array UInt8) (room : Nat) (hg : WGeo w) (hi : 0 < inp.size) (hr : 0 < room) :
    0 < (inflateNone flags w inp room).2.consumed ∨ 0 < (inflateNone flags w inp room).2.out.size ∨
    (inflateNone flags w inp room).2.status = rStreamEnd ∨ (inflateNone flags w inp room).2.status = rData ∨
    (inflateNone flags w inp room).2.status = rBuf := by
  by_cases hf : w.last < 0
  · rw [inflateNone_failed flags inp room hf]
    by_cases hc : w.last = stFailedCannotMakeProgress
    · rw [if_pos hc]; exact .inr (.inr (.inr (.inr rfl)))
    · rw [if_neg hc]; exact .inr (.inr (.inr (.inl rfl)))
  by_cases ha : w.avail = 0
  · -- the first round of the loop
    rw [inflateNone_loop flags inp room hf ha, show inp.size + room + 2 = (inp.size + room + 1) + 1 from rfl]
    have hcl := C05.call_always_terminates w.r inp w.dict w.ofs (dictSize - w.ofs) flags
    have hfacts := decompress_facts w.r inp w.dict w.ofs (dictSize - w.ofs) flags
    have hgeo1 := hg.call inp flags
    dsimp only at hcl
    generalize hres : decompress w.r inp w.dict w.ofs (dictSize - w.ofs) flags = rs at hcl hfacts hgeo1
    obtain ⟨hgeo2, _, _, hbsz, hav2, _⟩ := push_split hgeo1 room
    generalize hp : push { w with r := rs.r, dict := rs.out, last := rs.status, avail := rs.written } room = pr at hgeo2 hbsz hav2
    obtain ⟨bytes, w2⟩ := pr
    dsimp only at hgeo2 hbsz hav2
    rw [loopNone_succ hres hp]
    -- an inner call that neither failed nor finished with everything handed over consumed or delivered
    have hprog : ¬ rs.status < 0 → (rs.status = stDone → w2.avail ≠ 0) → 0 < rs.consumed ∨ 0 < bytes.size := by
      intro hnn hd
      rcases hcl with h | h | h | h | h | h | h | h
      · rw [h] at hnn; exact absurd (by decide) hnn
      · rw [h] at hnn; exact absurd (by decide) hnn
      · rw [h] at hnn; exact absurd (by decide) hnn
      · right; have := hd h; rw [hbsz]; omega
      · left; rw [hfacts.nmi (.inl h)]; exact hi
      · right
        have hw := hfacts.hmo h
        have := hg.ofsLt; have := hg.dsz
        rw [hbsz]; omega
      · rw [h] at hnn; exact absurd (by decide) hnn
      · rw [hstop] at h; exact absurd h.2 (by decide)
    cases hx : loopExit inp.size rs.status w2.avail (inp.extract rs.consumed inp.size).size (room - bytes.size) with
    | some k =>
      rcases loopExit_spec hx with ⟨rfl, _⟩ | ⟨rfl, _⟩ | ⟨rfl, _⟩ | ⟨rfl, hnn, hcase⟩
      · exact .inr (.inr (.inr (.inr rfl)))
      · exact .inr (.inr (.inr (.inl rfl)))
      · exact .inr (.inr (.inl rfl))
      · rcases hprog hnn (fun hd => hcase.elim (·.2) (absurd hd ·.1)) with h | h
        · exact .inl (by show 0 < 0 + rs.consumed; omega)
        · exact .inr (.inl (by show 0 < (#[] ++ bytes).size; rw [Array.empty_append]; exact h))
    | none =>
      rw [Option.elim_none]
      obtain ⟨hnn, hnd, _⟩ := loopExit_spec hx
      obtain ⟨_, ⟨n, hn, _⟩, ⟨new, ho, _⟩⟩ := loopNone_counts flags inp.size (inp.size + room + 1) w2
        (inp.extract rs.consumed inp.size) (room - bytes.size) (0 + rs.consumed) (#[] ++ bytes) hgeo2
      rcases hprog hnn (absurd · hnd) with h | h
      · exact .inl (by rw [hn]; omega)
      · exact .inr (.inl (by rw [ho, Array.size_append, Array.empty_append]; omega))
  · rw [inflateNone_pending flags inp room hf ha]
    obtain ⟨_, _, _, hbsz, _, _⟩ := push_split hg room
    exact .inr (.inl (by rw [hbsz]; omega))

theorem fresh_geo : WGeo WB.fresh := ⟨by decide, by simp [WB.fresh], by decide⟩

end Model.Core
