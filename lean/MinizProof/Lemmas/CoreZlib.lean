/-
The zlib wrapper in the refinement: header bytes, trailer bytes, checksum comparison.
Helper lemmas for Props/C03, C09.
-/
import MinizProof.Lemmas.CoreRefine
namespace Model.Core
open Spec
variable {e : Env} {c : Ctx} {outA : Array UInt8}

theorem micro_start_zlib (hs : c.r.state = sStart) (hz : hasFlag e.flags fParseZlib = true) :
    ∃ c1, step e c outA = .cont c1 outA ∧ c1.r.state = sReadZlibCmf ∧ c1.r.numBits = 0 ∧ c1.r.bitBuf = 0 ∧
      c1.r.checkAdler32 = 1 ∧ c1.r.zAdler32 = 1 ∧
      c1.inPos = c.inPos ∧ c1.outPos = c.outPos ∧ c1.r.rawHeader = c.r.rawHeader ∧
      c1.r.tableSizes = c.r.tableSizes ∧ c1.r.lenCodes = c.r.lenCodes := by
  rw [step_Start hs]
  unfold stStart
  simp only [hz, ↓reduceIte]
  exact ⟨_, rfl, rfl, rfl, rfl, rfl, rfl, rfl, rfl, rfl, rfl, rfl⟩

theorem micro_cmf {b : UInt8} (hs : c.r.state = sReadZlibCmf) (hb : e.inp[c.inPos]? = some b) :
    step e c outA = .cont (setState { c with r := { c.r with zHeader0 := b.toNat }, inPos := c.inPos + 1 } sReadZlibFlg) outA := by
  rw [step_ReadZlibCmf hs]; unfold stReadZlibCmf; rw [hb]

theorem micro_flg {b : UInt8} (hs : c.r.state = sReadZlibFlg) (hb : e.inp[c.inPos]? = some b)
    (hflat : e.ring = false) (hv : zlibHeaderValid c.r.zHeader0 b.toNat = true) :
    step e c outA = .cont (setState { c with r := { c.r with zHeader1 := b.toNat }, inPos := c.inPos + 1 } sReadBlockHeader) outA := by
  rw [step_ReadZlibFlg hs]; unfold stReadZlibFlg; rw [hb]
  simp only [hv, hflat, Bool.not_true, Bool.false_and, Bool.or_self, Bool.false_eq_true, ↓reduceIte]

theorem micro_blockDone_final_zlib (hs : c.r.state = sBlockDone) (hf : c.r.finish ≠ 0) (h8 : c.r.numBits < 8)
    (hz : hasFlag e.flags fParseZlib = true) :
    ∃ c1, step e c outA = .cont c1 outA ∧ c1.r.state = sReadAdler32 ∧ c1.r.counter = 0 ∧ c1.r.numBits = 0 ∧
      c1.inPos = c.inPos ∧ c1.outPos = c.outPos ∧ c1.r.zAdler32 = c.r.zAdler32 ∧ c1.r.checkAdler32 = c.r.checkAdler32 := by
  rw [step_BlockDone hs]
  unfold stBlockDone
  have hm : c.r.numBits % 8 = c.r.numBits := Nat.mod_eq_of_lt h8
  simp only [hf, ne_eq, not_false_eq_true, ↓reduceIte, hz, hm, Nat.sub_self, Nat.zero_div,
    Nat.zero_min, Nat.mul_zero, Nat.sub_zero]
  exact ⟨_, rfl, rfl, rfl, rfl, rfl, rfl, rfl, rfl⟩

theorem micro_adler_byte {b : UInt8} {k : Nat} (hs : c.r.state = sReadAdler32) (hc : c.r.counter = k) (hk : k < 4)
    (hnb : c.r.numBits = 0) (hb : e.inp[c.inPos]? = some b) :
    ∃ c1, step e c outA = .cont c1 outA ∧ c1.r.state = sReadAdler32 ∧ c1.r.counter = k + 1 ∧ c1.r.numBits = 0 ∧
      c1.inPos = c.inPos + 1 ∧ c1.outPos = c.outPos ∧
      c1.r.zAdler32 = (c.r.zAdler32 * 256 + b.toNat) % 2 ^ 32 ∧ c1.r.checkAdler32 = c.r.checkAdler32 := by
  rw [step_ReadAdler32 hs]
  unfold stReadAdler32
  have h4 : c.r.counter < 4 := by omega
  simp only [h4, ↓reduceIte, hnb, ne_eq, not_true_eq_false, hb]
  exact ⟨_, rfl, hs, by simp [hc], (by first | rfl | exact hnb), rfl, rfl, rfl, rfl⟩

theorem micro_adler_done (hs : c.r.state = sReadAdler32) (hc : c.r.counter = 4) :
    step e c outA = .cont (setState c sDoneForever) outA := by
  rw [step_ReadAdler32 hs]
  unfold stReadAdler32
  have h4 : ¬ c.r.counter < 4 := by omega
  simp only [h4, ↓reduceIte]

theorem trailer_value (a b c d : Nat) (ha : a < 256) (hb : b < 256) (hc : c < 256) (hd : d < 256) :
    ((((1 * 256 + a) % 2 ^ 32 * 256 + b) % 2 ^ 32 * 256 + c) % 2 ^ 32 * 256 + d) % 2 ^ 32 =
      ((a * 256 + b) * 256 + c) * 256 + d := by
  omega

theorem sim_start_zlib {r : Regs} {out : Array UInt8} {outPos : Nat} {cmf flg : UInt8} (hstart : r.state = sStart)
    (hshape : r.rawHeader.size = 4 ∧ r.tableSizes.size = 3 ∧ r.lenCodes.size = 512)
    (hz : hasFlag e.flags fParseZlib = true) (hflat : e.ring = false) (hpos : outPos ≤ out.size)
    (hsz : out.size = e.outLen) (h0 : e.inp[0]? = some cmf) (h1 : e.inp[1]? = some flg)
    (hv : zlibHeaderValid cmf.toNat flg.toNat = true) :
    ∃ c3, Reaches e { r := r, inPos := 0, outPos := outPos } out c3 out ∧ c3.r.state = sReadBlockHeader ∧
      Sim e c3 out 16 (out.extract 0 outPos ++ #[]) ∧ Shape c3 ∧ c3.r.checkAdler32 = 1 ∧ c3.r.zAdler32 = 1 := by
  obtain ⟨c1, st1, hs1, hn1, hb1, hchk1, hza1, hi1, ho1, rh1, ts1, lc1⟩ :=
    micro_start_zlib (e := e) (c := { r := r, inPos := 0, outPos := outPos }) (outA := out) hstart hz
  have hi1' : c1.inPos = 0 := hi1
  have st2 := micro_cmf (e := e) (c := c1) (outA := out) (b := cmf) hs1 (by rw [hi1']; exact h0)
  have st3 := micro_flg (e := e) (outA := out) (b := flg)
    (c := setState { c1 with r := { c1.r with zHeader0 := cmf.toNat }, inPos := c1.inPos + 1 } sReadZlibFlg) rfl
    (by show e.inp[c1.inPos + 1]? = _; rw [hi1']; exact h1) hflat hv
  have hsz2 : 2 ≤ e.inp.size := (Array.getElem?_eq_some_iff.mp h1).1
  have hrep := Rep.of_empty (data := e.inp) (c := { c1 with inPos := c1.inPos + 1 + 1 })
    (by show c1.inPos + 1 + 1 ≤ _; rw [hi1']; exact hsz2) hn1 hb1
  rw [show (8 * ({ c1 with inPos := c1.inPos + 1 + 1 } : Ctx).inPos) = 16 by show 8 * (c1.inPos + 1 + 1) = 16; rw [hi1']] at hrep
  exact ⟨_, (Reaches.of_step st1).trans ((Reaches.of_step st2).trans (Reaches.of_step st3)), rfl,
    ⟨hrep.of_eq rfl rfl rfl, by show c1.r.numBits < 8; rw [hn1]; decide,
      by show c1.outPos = _; rw [ho1, Array.append_empty, size_extract_prefix hpos],
      OutEq.extract out outPos, hsz⟩,
    ⟨by show c1.r.rawHeader.size = 4; rw [rh1]; exact hshape.1, by show c1.r.tableSizes.size = 3; rw [ts1]; exact hshape.2.1,
      by show c1.r.lenCodes.size = 512; rw [lc1]; exact hshape.2.2⟩, hchk1, hza1⟩

/-- The end of a zlib stream: `BlockDone` of the final block (fewer than 8 bits buffered), the four
    trailer bytes, `DoneForever`. -/
theorem sim_trailer {a b c' d : UInt8} (hs : c.r.state = sBlockDone) (hf : c.r.finish ≠ 0) (h8 : c.r.numBits < 8)
    (hz : hasFlag e.flags fParseZlib = true)
    (ha : e.inp[c.inPos]? = some a) (hb : e.inp[c.inPos + 1]? = some b) (hc' : e.inp[c.inPos + 2]? = some c')
    (hd : e.inp[c.inPos + 3]? = some d) :
    ∃ cD, Reaches e c outA cD outA ∧ cD.r.state = sDoneForever ∧ cD.r.numBits = 0 ∧ cD.inPos = c.inPos + 4 ∧
      cD.outPos = c.outPos ∧ cD.r.checkAdler32 = c.r.checkAdler32 ∧
      cD.r.zAdler32 = ((((c.r.zAdler32 * 256 + a.toNat) % 2 ^ 32 * 256 + b.toNat) % 2 ^ 32 * 256 + c'.toNat) % 2 ^ 32 * 256 +
        d.toNat) % 2 ^ 32 := by
  obtain ⟨d0, sd0, hs0, hc0, hn0, hi0, ho0, hz0, hk0⟩ := micro_blockDone_final_zlib (outA := outA) hs hf h8 hz
  obtain ⟨d1, sd1, hs1, hc1, hn1, hi1, ho1, hz1, hk1⟩ :=
    micro_adler_byte (outA := outA) hs0 hc0 (by omega) hn0 (by rw [hi0]; exact ha)
  obtain ⟨d2, sd2, hs2, hc2, hn2, hi2, ho2, hz2, hk2⟩ :=
    micro_adler_byte (outA := outA) hs1 hc1 (by omega) hn1 (by rw [hi1, hi0]; exact hb)
  obtain ⟨d3, sd3, hs3, hc3, hn3, hi3, ho3, hz3, hk3⟩ :=
    micro_adler_byte (outA := outA) hs2 hc2 (by omega) hn2 (by rw [hi2, hi1, hi0]; exact hc')
  obtain ⟨d4, sd4, hs4, hc4, hn4, hi4, ho4, hz4, hk4⟩ :=
    micro_adler_byte (outA := outA) hs3 hc3 (by omega) hn3 (by rw [hi3, hi2, hi1, hi0]; exact hd)
  exact ⟨_, (Reaches.of_step sd0).trans ((Reaches.of_step sd1).trans ((Reaches.of_step sd2).trans
      ((Reaches.of_step sd3).trans ((Reaches.of_step sd4).trans (Reaches.of_step (micro_adler_done hs4 hc4)))))),
    rfl, hn4, by show d4.inPos = _; rw [hi4, hi3, hi2, hi1, hi0], by show d4.outPos = _; rw [ho4, ho3, ho2, ho1, ho0],
    by show d4.r.checkAdler32 = _; rw [hk4, hk3, hk2, hk1, hk0],
    by show d4.r.zAdler32 = _; rw [hz4, hz3, hz2, hz1, hz0]⟩

theorem epilogue_status_zlib_done {flags outPos outEnd : Nat} {c : Ctx} {out : Array UInt8}
    (hz : hasFlag flags fParseZlib = true) :
    (epilogue flags outPos outEnd stDone c out).status =
      if hasFlag flags fIgnoreAdler = false ∧
          adler32 c.r.checkAdler32 (out.extract outPos c.outPos).toList ≠ c.r.zAdler32
      then stAdler32Mismatch else stDone := by
  have hge : decide (stDone ≥ 0) = true := by decide
  rw [epilogue_status_eq, exitStatus_of_ne _ _ _ (by decide)]
  show (if (needAdler flags && decide (stDone ≥ 0)) && (stDone == stDone && hasFlag flags fParseZlib &&
      adler32 c.r.checkAdler32 (out.extract outPos c.outPos).toList != c.r.zAdler32) then _ else _) = _
  unfold needAdler
  rw [hz, hge]
  cases hasFlag flags fIgnoreAdler <;> simp

/-- ONE-SHOT REFINEMENT, zlib format, flat output buffer: status, counts and bytes of one call on a
    stream whose header is valid and whose DEFLATE body the reference decoder accepts. The trailer is
    compared with the Adler-32 of the produced bytes unless the caller asked to ignore it. -/
theorem refine_zlib_flat (r : Regs) (inp out : Array UInt8) (outPos budget flags maxDist : Nat) (res : Inflated)
    (cmf flg a b c d : UInt8)
    (hstart : r.state = sStart) (hshape : r.rawHeader.size = 4 ∧ r.tableSizes.size = 3 ∧ r.lenCodes.size = 512)
    (hflat : hasFlag flags fNonWrapping = true) (hz : hasFlag flags fParseZlib = true)
    (hstop : hasFlag flags fStopOnBlockBoundary = false) (hpos : outPos ≤ out.size)
    (h0 : inp[0]? = some cmf) (h1 : inp[1]? = some flg) (hv : zlibHeaderValid cmf.toNat flg.toNat = true)
    (hspec : inflateSpec (out.extract 0 outPos) maxDist inp 16 = .accept res)
    (ha : inp[(res.bitsUsed + 7) / 8]? = some a) (hb : inp[(res.bitsUsed + 7) / 8 + 1]? = some b)
    (hc : inp[(res.bitsUsed + 7) / 8 + 2]? = some c) (hd : inp[(res.bitsUsed + 7) / 8 + 3]? = some d)
    (hroom : outPos + res.out.size ≤ min (outPos + budget) out.size) :
    (decompress r inp out outPos budget flags).status =
      (if hasFlag flags fIgnoreAdler = false ∧
          adler32 1 res.out.toList ≠ ((a.toNat * 256 + b.toNat) * 256 + c.toNat) * 256 + d.toNat
       then stAdler32Mismatch else stDone) ∧
    (decompress r inp out outPos budget flags).written = res.out.size ∧
    (decompress r inp out outPos budget flags).consumed = (res.bitsUsed + 7) / 8 + 4 ∧
    (∀ i, i < res.out.size → (decompress r inp out outPos budget flags).out[outPos + i]? = res.out[i]?) := by
  have hpre := size_extract_prefix hpos
  -- the automaton's path: header, blocks, trailer
  obtain ⟨c3, r3, hs3, hsim3, hsh3, hchk3, hza3⟩ :=
    sim_start_zlib (e := callEnv inp out outPos budget flags) hstart hshape hz (callEnv_ring hflat) hpos rfl h0 h1 hv
  obtain ⟨cB, outB, rB, hsB, hsimB, hfB, zB⟩ :=
    sim_blocks (callEnv_ring hflat) callEnv_outEnd_le hstop _ maxDist _ 16 #[] #[] _ c3 out
      (inflateSpec_inv hspec) hs3 hsim3 hsh3 (by rw [hpre]; exact hroom)
  have hinB : cB.inPos = (res.bitsUsed + 7) / 8 := hsimB.rep.inPos_eq hsimB.nb8
  obtain ⟨cD, rD, hsD, hnD, hiD, hoD, hkD, hzD⟩ :=
    sim_trailer (e := callEnv inp out outPos budget flags) (outA := outB) hsB hfB hsimB.nb8 hz (by rw [hinB]; exact ha) (by rw [hinB]; exact hb) (by rw [hinB]; exact hc)
      (by rw [hinB]; exact hd)
  rw [decompress_of_reaches (badGeometry_flat hflat hpos) (r3.trans (rB.trans rD)) (step_DoneForever hsD)]
  have hoD' : cD.outPos = (out.extract 0 outPos ++ res.out).size := hoD.trans hsimB.outPos
  have hbytes := epilogue_bytes (flags := flags) (outEnd := min (outPos + budget) out.size) (st := stDone) hpre
    hoD' hsimB.outEq
  refine ⟨?_, hbytes.1, by rw [epilogue_consumed, exitUndo_of_empty hnD, hiD, hinB]; rfl, hbytes.2⟩
  have hseg := hsimB.outEq.extract_eq (by rw [hsimB.size, hpre]; exact Nat.le_trans hroom (Nat.min_le_right _ _))
  rw [← Array.size_append, ← hoD', hpre] at hseg
  rw [epilogue_status_zlib_done hz, hseg, hkD, zB.chk, hchk3, hzD, zB.zA, hza3,
    trailer_value _ _ _ _ a.toNat_lt b.toNat_lt c.toNat_lt d.toNat_lt]

theorem zlibSpec_inv {pre : Array UInt8} {maxDist : Nat} {data : Array UInt8} {chk : Bool} {zr : ZInflated}
    (h : zlibSpec pre maxDist data chk = .accept zr) :
    ∃ cmf flg a b c d : UInt8, data[0]? = some cmf ∧ data[1]? = some flg ∧
      zlibHeaderValid cmf.toNat flg.toNat = true ∧ inflateSpec pre maxDist data 16 = .accept zr.inner ∧
      data[(zr.inner.bitsUsed + 7) / 8]? = some a ∧ data[(zr.inner.bitsUsed + 7) / 8 + 1]? = some b ∧
      data[(zr.inner.bitsUsed + 7) / 8 + 2]? = some c ∧ data[(zr.inner.bitsUsed + 7) / 8 + 3]? = some d ∧
      (chk = true → adler32 1 zr.inner.out.toList = ((a.toNat * 256 + b.toNat) * 256 + c.toNat) * 256 + d.toNat) ∧
      zr.bytesUsed = (zr.inner.bitsUsed + 7) / 8 + 4 := by
  unfold zlibSpec at h
  cases h0 : data[0]? with
  | none => simp [h0] at h
  | some cmf =>
    cases h1 : data[1]? with
    | none => simp [h0, h1] at h
    | some flg =>
      simp only [h0, h1] at h
      by_cases hv : zlibHeaderValid cmf.toNat flg.toNat = true
      · simp only [hv, Bool.not_true, Bool.false_eq_true, ↓reduceIte] at h
        cases hi : inflateSpec pre maxDist data 16 with
        | accept r =>
          simp only [hi] at h
          cases ha : data[(r.bitsUsed + 7) / 8]? with
          | none => simp [ha] at h
          | some a =>
            cases hb : data[(r.bitsUsed + 7) / 8 + 1]? with
            | none => simp [ha, hb] at h
            | some b =>
              cases hc : data[(r.bitsUsed + 7) / 8 + 2]? with
              | none => simp [ha, hb, hc] at h
              | some c =>
                cases hd : data[(r.bitsUsed + 7) / 8 + 3]? with
                | none => simp [ha, hb, hc, hd] at h
                | some d =>
                  simp only [ha, hb, hc, hd] at h
                  split at h
                  · simp at h
                  · rename_i hne
                    simp only [Verdict.accept.injEq] at h
                    subst h
                    refine ⟨cmf, flg, a, b, c, d, rfl, rfl, hv, rfl, ha, hb, hc, hd, ?_, rfl⟩
                    intro hchk
                    simp only [hchk, Bool.true_and, ne_eq, decide_not, Bool.not_eq_eq_eq_not, Bool.not_true,
                      decide_eq_false_iff_not, Decidable.not_not] at hne
                    exact hne.symm
        | reject w => simp [hi] at h
        | truncated p => simp [hi] at h
        | fuel => simp [hi] at h
      · simp [hv] at h

end Model.Core
