/-
The model of `start_dynamic_block`'s run-length coder (`Model/DeflRle`) is correct for EVERY list of
code sizes: the symbols it emits expand — under the reference decoder's reading of 16 / 17 / 18 — to
exactly the list it was given. Invariant over the loop: expansion of what has been emitted, followed
by the pending zeros and the pending repeats of the previous size, is the list processed so far.
Helper lemmas for Props/C10.
-/
import MinizProof.Model.DeflRle
namespace Model.Rle
open Model.Core

theorem applyAll_append : ∀ (a b : List CSym) (acc : Array Nat), applyAll acc (a ++ b) = applyAll (applyAll acc a) b := by
  intro a
  induction a with
  | nil => intro b acc; rfl
  | cons c cs ih => intro b acc; exact ih b (c.apply acc)

/-- the symbol is well-formed where it stands: extra-bit value in range, a repeat only after something -/
def CSymS (acc : Array Nat) : CSym → Prop
  | .len l => l < 16
  | .rep r => r < 4 ∧ acc.size ≠ 0
  | .z3 r => r < 8
  | .z7 r => r < 128

def SOk : Array Nat → List CSym → Prop
  | _, [] => True
  | acc, c :: cs => CSymS acc c ∧ SOk (c.apply acc) cs

theorem SOk_append : ∀ (a b : List CSym) (acc : Array Nat), SOk acc a → SOk (applyAll acc a) b → SOk acc (a ++ b) := by
  intro a
  induction a with
  | nil => intro b acc _ h; exact h
  | cons c cs ih => intro b acc h1 h2; exact ⟨h1.1, ih b _ h1.2 h2⟩

/-- the symbols `out` expand to the code sizes `l`, each symbol well-formed where it stands -/
def Emits (out : List CSym) (l : List Nat) : Prop := (applyAll #[] out).toList = l ∧ SOk #[] out

theorem Emits.snoc {out : List CSym} {l : List Nat} (h : Emits out l) (c : CSym) (hc : CSymS l.toArray c) :
    Emits (out ++ [c]) (c.apply l.toArray).toList := by
  obtain ⟨rfl, hs⟩ := h
  rw [Array.toArray_toList] at hc ⊢
  exact ⟨by rw [applyAll_append]; rfl, SOk_append _ _ _ hs ⟨hc, trivial⟩⟩

theorem Emits.lens {out : List CSym} {l : List Nat} (h : Emits out l) {v : Nat} (hv : v < 16) :
    ∀ n, Emits (out ++ List.replicate n (.len v)) (l ++ List.replicate n v)
  | 0 => by simpa using h
  | n + 1 => by
    rw [List.replicate_succ', List.replicate_succ', ← List.append_assoc, ← List.append_assoc]
    simpa [CSym.apply] using (Emits.lens h hv n).snoc (.len v) hv

theorem Emits.rep {out : List CSym} {l : List Nat} (h : Emits out l) {v r : Nat} (hl : l.getLast? = some v) (hr : r < 4) :
    Emits (out ++ [.rep r]) (l ++ List.replicate (3 + r) v) := by
  rw [List.getLast?_eq_getElem?] at hl
  have hne : l.toArray.size ≠ 0 := by intro h0; simp at h0; subst h0; simp at hl
  simpa [CSym.apply, Array.getD_eq_getD_getElem?, hl] using h.snoc (.rep r) ⟨hr, hne⟩

theorem Emits.z3 {out : List CSym} {l : List Nat} (h : Emits out l) {r : Nat} (hr : r < 8) :
    Emits (out ++ [.z3 r]) (l ++ List.replicate (3 + r) 0) := by
  simpa [CSym.apply] using h.snoc (.z3 r) hr

theorem Emits.z7 {out : List CSym} {l : List Nat} (h : Emits out l) {r : Nat} (hr : r < 128) :
    Emits (out ++ [.z7 r]) (l ++ List.replicate (11 + r) 0) := by
  simpa [CSym.apply] using h.snoc (.z7 r) hr

theorem prevFlush_emits {s : St} {l : List Nat} (h : Emits s.out l)
    (hl : s.rep ≠ 0 → l.getLast? = some s.prev ∧ s.prev ≤ 15) (h6 : s.rep ≤ 6) :
    Emits (prevFlush s).out (l ++ List.replicate s.rep s.prev) := by
  unfold prevFlush
  by_cases hr : s.rep = 0
  · simpa [hr] using h
  · rw [if_pos hr]
    by_cases h3 : s.rep < 3
    · rw [if_pos h3]; exact h.lens (Nat.lt_succ_of_le (hl hr).2) _
    · rw [if_neg h3]
      have := h.rep (hl hr).1 (show s.rep - 3 < 4 by omega)
      rwa [show 3 + (s.rep - 3) = s.rep by omega] at this

theorem zeroFlush_emits {s : St} {l : List Nat} (h : Emits s.out l) (hz : s.z ≤ 138) :
    Emits (zeroFlush s).out (l ++ List.replicate s.z 0) := by
  unfold zeroFlush
  by_cases hr : s.z = 0
  · simpa [hr] using h
  · rw [if_pos hr]
    by_cases h3 : s.z < 3
    · rw [if_pos h3]; exact h.lens (by decide) _
    · rw [if_neg h3]
      by_cases h10 : s.z ≤ 10
      · rw [if_pos h10]
        have := h.z3 (show s.z - 3 < 8 by omega)
        rwa [show 3 + (s.z - 3) = s.z by omega] at this
      · rw [if_neg h10]
        have := h.z7 (show s.z - 11 < 128 by omega)
        rwa [show 11 + (s.z - 11) = s.z by omega] at this

theorem prevFlush_eq (s : St) : prevFlush s = { s with rep := 0, out := (prevFlush s).out } := by
  obtain ⟨z, rep, prev, out⟩ := s
  unfold prevFlush
  by_cases hr : rep = 0
  · simp [hr]
  · by_cases h3 : rep < 3 <;> simp [hr, h3]

theorem zeroFlush_eq (s : St) : zeroFlush s = { s with z := 0, out := (zeroFlush s).out } := by
  obtain ⟨z, rep, prev, out⟩ := s
  unfold zeroFlush
  by_cases hr : z = 0
  · simp [hr]
  · by_cases h3 : z < 3
    · simp [hr, h3]
    · by_cases h10 : z ≤ 10 <;> simp [hr, h3, h10]

theorem zeroFlush_rep (s : St) : (zeroFlush s).rep = s.rep := by rw [zeroFlush_eq]
theorem zeroFlush_prev (s : St) : (zeroFlush s).prev = s.prev := by rw [zeroFlush_eq]

theorem step_zero (s : St) : step s 0 = if s.z + 1 = 138
    then { z := 0, rep := 0, prev := 0, out := (zeroFlush { prevFlush s with z := 138 }).out }
    else { z := s.z + 1, rep := 0, prev := 0, out := (prevFlush s).out } := by
  unfold step
  rw [if_pos rfl]
  dsimp only
  rw [prevFlush_eq s]
  dsimp only
  by_cases h : s.z + 1 = 138
  · rw [if_pos h, if_pos h, zeroFlush_eq, h]
  · rw [if_neg h, if_neg h]

theorem step_new (s : St) {cs : Nat} (h0 : cs ≠ 0) (hne : cs ≠ s.prev) :
    step s cs = { z := 0, rep := 0, prev := cs, out := (prevFlush (zeroFlush s)).out ++ [.len cs] } := by
  unfold step
  rw [if_neg h0]
  dsimp only
  rw [zeroFlush_eq s]
  dsimp only
  rw [if_pos hne, prevFlush_eq]

theorem step_same (s : St) (h0 : s.prev ≠ 0) : step s s.prev = if s.rep + 1 = 6
    then { z := 0, rep := 0, prev := s.prev, out := (prevFlush { zeroFlush s with rep := 6 }).out }
    else { z := 0, rep := s.rep + 1, prev := s.prev, out := (zeroFlush s).out } := by
  unfold step
  rw [if_neg h0]
  dsimp only
  rw [zeroFlush_eq s]
  dsimp only
  rw [if_neg (fun h => h rfl)]
  by_cases h : s.rep + 1 = 6
  · rw [if_pos h, if_pos h, prevFlush_eq, h]
  · rw [if_neg h, if_neg h]

/-- the loop invariant after the list `done` has been processed; `l` is what the symbols emitted so
    far expand to. Pending zeros and pending repeats exclude each other; pending repeats repeat the
    last size emitted; `prev` is the last size processed (`0xFF` before the first). -/
structure Inv (s : St) (l done : List Nat) : Prop where
  em    : Emits s.out l
  exp   : l ++ List.replicate s.z 0 ++ List.replicate s.rep s.prev = done
  zr    : s.z ≠ 0 → s.rep = 0 ∧ s.prev = 0
  rp    : s.rep ≠ 0 → s.prev ≠ 0 ∧ l.getLast? = some s.prev ∧ s.prev ≤ 15
  repLe : s.rep ≤ 5
  zLe   : s.z ≤ 137
  prevL : (done = [] ∧ s.prev = 0xFF) ∨ done.getLast? = some s.prev

theorem getLast?_append_replicate (l : List Nat) (n v : Nat) (hn : n ≠ 0) : (l ++ List.replicate n v).getLast? = some v := by
  obtain ⟨m, rfl⟩ : ∃ m, n = m + 1 := ⟨n - 1, by omega⟩
  rw [List.replicate_succ', ← List.append_assoc, List.getLast?_append]
  simp

theorem step_inv {s : St} {l done : List Nat} {cs : Nat} (hcs : cs ≤ 15) (h : Inv s l done) :
    ∃ l', Inv (step s cs) l' (done ++ [cs]) := by
  obtain ⟨hem, hexp, hzr, hrp, hr5, hz137, hprev⟩ := h
  have hrz : s.rep ≠ 0 → s.z = 0 := fun hr => Decidable.byContradiction fun hz => hr (hzr hz).1
  have hlast : s.rep ≠ 0 → l.getLast? = some s.prev ∧ s.prev ≤ 15 := fun hr => (hrp hr).2
  by_cases h0 : cs = 0
  · subst h0
    have hP := prevFlush_emits hem hlast (by omega)
    -- pending zeros and pending repeats never coexist
    have hexp1 : l ++ List.replicate s.rep s.prev ++ List.replicate (s.z + 1) 0 = done ++ [0] := by
      rw [← hexp, List.replicate_succ']
      by_cases hz : s.z = 0
      · simp [hz]
      · simp [(hzr hz).1]
    rw [step_zero]
    by_cases h138 : s.z + 1 = 138
    · rw [if_pos h138]
      have hZ := zeroFlush_emits (s := { prevFlush s with z := 138 }) hP (Nat.le_refl _)
      rw [h138] at hexp1
      exact ⟨_, hZ, by simpa using hexp1, fun hz => absurd rfl hz, fun hr => absurd rfl hr, Nat.zero_le _, Nat.zero_le _,
        .inr (by simp)⟩
    · rw [if_neg h138]
      exact ⟨_, hP, by simpa using hexp1, fun _ => ⟨rfl, rfl⟩, fun hr => absurd rfl hr, Nat.zero_le _, by show s.z + 1 ≤ 137; omega,
        .inr (by simp)⟩
  · have hZ := zeroFlush_emits hem (by omega)
    by_cases hne : cs = s.prev
    · subst hne
      have hz0 : s.z = 0 := Decidable.byContradiction fun hz => h0 (hzr hz).2
      have hl : l.getLast? = some s.prev := by
        by_cases hr : s.rep = 0
        · rw [hz0, hr] at hexp
          rcases hprev with ⟨_, hp⟩ | hp
          · omega
          · simpa [← hexp] using hp
        · exact (hrp hr).2.1
      have hexpS : l ++ List.replicate (s.rep + 1) s.prev = done ++ [s.prev] := by
        rw [← hexp, hz0, List.replicate_succ']; simp
      rw [hz0, List.replicate_zero, List.append_nil] at hZ
      rw [step_same s h0]
      by_cases h6 : s.rep + 1 = 6
      · rw [if_pos h6]
        have hP := prevFlush_emits (s := { zeroFlush s with rep := 6 }) hZ
          (fun _ => by rw [show ({ zeroFlush s with rep := 6 } : St).prev = s.prev from zeroFlush_prev s]; exact ⟨hl, hcs⟩) (Nat.le_refl _)
        rw [show ({ zeroFlush s with rep := 6 } : St).prev = s.prev from zeroFlush_prev s] at hP
        rw [h6] at hexpS
        exact ⟨_, hP, by simpa using hexpS, fun hz => absurd rfl hz, fun hr => absurd rfl hr, Nat.zero_le _, Nat.zero_le _,
          .inr (by simp)⟩
      · rw [if_neg h6]
        exact ⟨l, hZ, by simpa using hexpS, fun hz => absurd rfl hz, fun _ => ⟨h0, hl, hcs⟩, by show s.rep + 1 ≤ 5; omega,
          Nat.zero_le _, .inr (by simp)⟩
    · have hP := prevFlush_emits hZ (fun hr => by
        rw [zeroFlush_rep] at hr
        rw [zeroFlush_prev, hrz hr, List.replicate_zero, List.append_nil]
        exact hlast hr) (by rw [zeroFlush_rep]; omega)
      rw [zeroFlush_rep, zeroFlush_prev, hexp] at hP
      rw [step_new s h0 hne]
      exact ⟨_, hP.lens (v := cs) (by omega) 1, by simp, fun hz => absurd rfl hz, fun hr => absurd rfl hr, Nat.zero_le _,
        Nat.zero_le _, .inr (by simp)⟩

theorem foldl_step_inv : ∀ (ls : List Nat) {s : St} {l done : List Nat}, (∀ x ∈ ls, x ≤ 15) → Inv s l done →
    ∃ l', Inv (ls.foldl step s) l' (done ++ ls)
  | [], _, l, _, _, h => ⟨l, by simpa using h⟩
  | x :: ls, _, _, _, hl, h => by
    obtain ⟨l', h'⟩ := step_inv (hl x (by simp)) h
    simpa using foldl_step_inv ls (fun y hy => hl y (by simp [hy])) h'

/-- THE RUN-LENGTH CODER OF `start_dynamic_block` IS CORRECT: for every list of code sizes (each at most
    15) the symbols the model emits expand to exactly that list. -/
theorem rlePack_spec (lens : List Nat) (h15 : ∀ l ∈ lens, l ≤ 15) :
    (applyAll #[] (rlePack lens)).toList = lens ∧ SOk #[] (rlePack lens) := by
  have h0 : Inv {} [] [] := ⟨⟨rfl, trivial⟩, rfl, fun h => absurd rfl h, fun h => absurd rfl h, by decide, by decide, .inl ⟨rfl, rfl⟩⟩
  obtain ⟨l, hI⟩ := foldl_step_inv lens h15 h0
  rw [List.nil_append] at hI
  unfold rlePack finish
  generalize lens.foldl step {} = s at hI
  obtain ⟨hem, hexp, hzr, hrp, hr5, hz137, _⟩ := hI
  by_cases hr : s.rep = 0
  · rw [if_neg (by simpa using hr)]
    have := zeroFlush_emits hem (by omega)
    rwa [← hexp, hr, List.replicate_zero, List.append_nil]
  · rw [if_pos hr]
    have := prevFlush_emits hem (fun hr => (hrp hr).2) (by omega)
    have hz : s.z = 0 := Decidable.byContradiction fun hz => hr (hzr hz).1
    rwa [← hexp, hz, List.replicate_zero, List.append_nil]
theorem apply_size_lt (acc : Array Nat) (c : CSym) : acc.size < (c.apply acc).size := by
  cases c <;> simp [CSym.apply] <;> omega

theorem applyAll_size_le : ∀ (cs : List CSym) (acc : Array Nat), acc.size ≤ (applyAll acc cs).size := by
  intro cs
  induction cs with
  | nil => intro acc; exact Nat.le_refl _
  | cons c cs ih => intro acc; exact Nat.le_trans (Nat.le_of_lt (apply_size_lt acc c)) (ih _)

/-- structural well-formedness + a code for every symbol used + the right total = what the reference
    decoder's `readLens` needs -/
theorem csymsOk_of (clens : Array Nat) (total : Nat) : ∀ (cs : List CSym) (acc : Array Nat), SOk acc cs →
    (∀ c ∈ cs, c.sym < clens.size ∧ 1 ≤ clens.getD c.sym 0) → (applyAll acc cs).size = total →
    CSymsOk clens total acc cs := by
  intro cs
  induction cs with
  | nil => intro acc _ _ h; exact h
  | cons c cs ih =>
    intro acc hs hc ht
    have hlt : acc.size < total := by
      have h1 := apply_size_lt acc c
      have h2 := applyAll_size_le cs (c.apply acc)
      have : applyAll acc (c :: cs) = applyAll (c.apply acc) cs := rfl
      rw [this] at ht
      omega
    refine ⟨hlt, ?_, ih _ hs.2 (fun x hx => hc x (by simp [hx])) ht⟩
    have hcc := hc c (by simp)
    cases c with
    | len l => exact ⟨hs.1, hcc.1, hcc.2⟩
    | rep r => exact ⟨hs.1.1, hs.1.2, hcc.1, hcc.2⟩
    | z3 r => exact ⟨hs.1, hcc.1, hcc.2⟩
    | z7 r => exact ⟨hs.1, hcc.1, hcc.2⟩

/-- THE PACKED CODE SIZES ARE READ BACK: for every list of code sizes (each ≤ 15) and every usable
    code-length code that has a code for each symbol the packer used, the reference decoder's
    `readLens` on the bits of the packed symbols returns exactly the list, at exactly the end of
    those bits. -/
theorem packed_lens_round_trip (lens : List Nat) (h15 : ∀ l ∈ lens, l ≤ 15) (clens : Array Nat) (hc : CodeOk clens)
    (hcodes : ∀ c ∈ rlePack lens, c.sym < clens.size ∧ 1 ≤ clens.getD c.sym 0)
    (data : Array UInt8) (fuel pos : Nat) (hf : (rlePack lens).length < fuel)
    (h : HasBits data pos (encCSyms clens (rlePack lens))) :
    Spec.readLens (Spec.mkCode clens) data lens.length fuel pos #[] =
      .accept (pos + (encCSyms clens (rlePack lens)).length, lens.toArray) := by
  obtain ⟨hexp, hsok⟩ := rlePack_spec lens h15
  have hsz : (applyAll #[] (rlePack lens)).size = lens.length := by
    have := congrArg List.length hexp
    simpa using this
  have hok := csymsOk_of clens lens.length (rlePack lens) #[] hsok hcodes hsz
  rw [readLens_enc clens hc data lens.length (rlePack lens) fuel pos #[] hf hok h]
  congr 2
  apply Array.ext'
  rw [hexp]

theorem clensFold_getD (f : Nat → Nat) : ∀ (os : List Nat) (n : Nat) (acc : Array Nat) (i : Nat), i < acc.size →
    (clensFold os ((os.take n).map f) acc).getD i 0 = if i ∈ os.take n then f i else acc.getD i 0
  | [], n, acc, i, _ => by simp [clensFold]
  | o :: os, 0, acc, i, _ => by simp [clensFold]
  | o :: os, n + 1, acc, i, hi => by
    show (clensFold os ((os.take n).map f) (acc.setIfInBounds o (f o))).getD i 0 = _
    rw [clensFold_getD f os n _ i (by simpa using hi)]
    by_cases hio : i ∈ os.take n
    · simp [hio]
    · rw [if_neg hio]
      by_cases he : i = o
      · subst he
        simp [Array.getD_eq_getD_getElem?, hi]
      · have : i ∉ (o :: os).take (n + 1) := by simp [he, hio]
        rw [if_neg this]
        simp [Array.getD_eq_getD_getElem?, Ne.symm he]

theorem clensFold_size : ∀ (os vs : List Nat) (acc : Array Nat), (clensFold os vs acc).size = acc.size
  | [], _, _ => rfl
  | _ :: _, [], _ => rfl
  | o :: os, v :: vs, acc => by show (clensFold os vs (acc.setIfInBounds o v)).size = _; rw [clensFold_size]; simp

theorem numBitLengths_bounds (clens : Array Nat) : 4 ≤ numBitLengths clens ∧ numBitLengths clens ≤ 19 := by
  unfold numBitLengths
  dsimp only
  omega

theorem dropped_are_zero (clens : Array Nat) : ∀ o ∈ Spec.clenOrder.drop (numBitLengths clens), clens.getD o 0 = 0 := by
  intro o ho
  -- the trailing zeros are a prefix of the reversed order, and the entries dropped lie in it
  have hpre := List.takeWhile_prefix (fun o => clens.getD o 0 == 0) (l := Spec.clenOrder.reverse)
  have hall := List.all_eq_true.mp (List.all_takeWhile (p := fun o => clens.getD o 0 == 0) (l := Spec.clenOrder.reverse))
  unfold numBitLengths at ho
  dsimp only at ho
  generalize Spec.clenOrder.reverse.takeWhile (fun o => clens.getD o 0 == 0) = tw at ho hpre hall
  have ho' := List.mem_reverse.mpr ho
  rw [List.reverse_drop] at ho'
  have := List.take_subset_take_left _ (j := tw.length) (by show 19 - _ ≤ _; omega) ho'
  rw [← List.prefix_iff_eq_take.mp hpre] at this
  simpa using hall o this

/-- THE CODE-LENGTH CODE IS SENT COMPLETELY: the decoder reassembles exactly `clens` from the fields the
    model sends (trailing zero entries in the RFC's order are implied). -/
theorem header_clens (litLens distLens clens : Array Nat) (hcs : clens.size = 19) :
    (header litLens distLens clens).clens = clens := by
  apply Array.ext
  · show (clensFold Spec.clenOrder _ (Array.replicate 19 0)).size = _
    rw [clensFold_size, Array.size_replicate, hcs]
  · intro i h1 h2
    have hi : i < 19 := hcs ▸ h2
    have hval : (header litLens distLens clens).clens.getD i 0 = clens.getD i 0 := by
      refine (clensFold_getD (fun o => clens.getD o 0) Spec.clenOrder (numBitLengths clens) (Array.replicate 19 0) i
        (by simpa using hi)).trans ?_
      by_cases hm : i ∈ Spec.clenOrder.take (numBitLengths clens)
      · rw [if_pos hm]
      · rw [if_neg hm]
        have hin : i ∈ Spec.clenOrder := (by decide : ∀ j, j < 19 → j ∈ Spec.clenOrder) i hi
        rw [← List.take_append_drop (numBitLengths clens) Spec.clenOrder] at hin
        rw [dropped_are_zero clens i ((List.mem_append.mp hin).resolve_left hm)]
        simp [Array.getD_eq_getD_getElem?, hi]
    simpa [Array.getD_eq_getD_getElem?, h1, h2] using hval

theorem SOk_sym_lt : ∀ (cs : List CSym) (acc : Array Nat), SOk acc cs → ∀ c ∈ cs, c.sym < 19 := by
  intro cs
  induction cs with
  | nil => intro acc _ c hc; simp at hc
  | cons x xs ih =>
    intro acc h c hc
    rcases List.mem_cons.mp hc with he | he
    · subst he
      cases c with
      | len l => have : l < 16 := h.1; show l < 19; omega
      | rep r => show 16 < 19; decide
      | z3 r => show 17 < 19; decide
      | z7 r => show 18 < 19; decide
    · exact ih _ h.2 c he

theorem header_lens (litLens distLens clens : Array Nat) (h15 : ∀ l ∈ litLens.toList ++ distLens.toList, l ≤ 15) :
    (header litLens distLens clens).lens = litLens ++ distLens := by
  apply Array.ext'
  show (applyAll #[] (rlePack (litLens.toList ++ distLens.toList))).toList = _
  rw [(rlePack_spec _ h15).1, Array.toList_append]

theorem header_litLens (litLens distLens clens : Array Nat) (hl : 257 ≤ litLens.size)
    (h15 : ∀ l ∈ litLens.toList ++ distLens.toList, l ≤ 15) : (header litLens distLens clens).litLens = litLens := by
  show (header litLens distLens clens).lens.extract 0 (litLens.size - 257 + 257) = _
  rw [header_lens _ _ _ h15, Nat.sub_add_cancel hl]
  simp

theorem header_distLens (litLens distLens clens : Array Nat) (hl : 257 ≤ litLens.size) (hd : 1 ≤ distLens.size)
    (h15 : ∀ l ∈ litLens.toList ++ distLens.toList, l ≤ 15) : (header litLens distLens clens).distLens = distLens := by
  show (header litLens distLens clens).lens.extract (litLens.size - 257 + 257) (litLens.size - 257 + 257 + (distLens.size - 1 + 1)) = _
  rw [header_lens _ _ _ h15, Nat.sub_add_cancel hl, Nat.sub_add_cancel hd]
  simp

/-- THE HEADER THE MODEL OF `start_dynamic_block` WRITES IS A WELL-FORMED HEADER OF THE ENCODER
    SPECIFICATION, whenever the Huffman builder delivered usable codes: 257..286 literal/length and
    1..30 distance code sizes, each at most 15 and valid as a code, with a code for end-of-block; a
    code-length code of 19 sizes below 8, valid, with a code for every symbol the packer used. So the
    block `encDynamic final (header …) toks` is decoded back by the reference decoder
    (`encDynamic_decodes`) — for every such input of the packer. -/
theorem model_header_ok (litLens distLens clens : Array Nat)
    (hl : 257 ≤ litLens.size ∧ litLens.size ≤ 286) (hd : 1 ≤ distLens.size ∧ distLens.size ≤ 30)
    (h15 : ∀ l ∈ litLens.toList ++ distLens.toList, l ≤ 15)
    (hcs : clens.size = 19) (hc8 : ∀ i, clens.getD i 0 < 8)
    (hcv : Spec.codeValid .clen clens = true)
    (hcodes : ∀ c ∈ rlePack (litLens.toList ++ distLens.toList), 1 ≤ clens.getD c.sym 0)
    (hlv : Spec.codeValid .litlen litLens = true) (hdv : Spec.codeValid .dist distLens = true)
    (heob : 1 ≤ litLens.getD 256 0) :
    (header litLens distLens clens).Ok := by
  have hcl := header_clens litLens distLens clens hcs
  have hlitL := header_litLens litLens distLens clens hl.1 h15
  obtain ⟨hexp, hsok⟩ := rlePack_spec (litLens.toList ++ distLens.toList) h15
  have hnb := numBitLengths_bounds clens
  refine ⟨by show litLens.size - 257 ≤ 29; omega, by show distLens.size - 1 ≤ 29; omega, ?_, ?_, hcl.symm ▸ hcv, ?_,
    hlitL.symm ▸ hlv, (header_distLens litLens distLens clens hl.1 hd.1 h15).symm ▸ hdv, hlitL.symm ▸ ⟨by omega, heob⟩⟩
  · have : (header litLens distLens clens).cvals.length = min (numBitLengths clens) 19 :=
      (List.length_map _).trans List.length_take
    omega
  · intro v hv
    obtain ⟨o, _, rfl⟩ := List.mem_map.mp (show v ∈ (Spec.clenOrder.take (numBitLengths clens)).map (fun o => clens.getD o 0) from hv)
    exact hc8 o
  · rw [hcl]
    refine csymsOk_of clens _ _ #[] hsok (fun c hc => ⟨hcs ▸ SOk_sym_lt _ _ hsok c hc, hcodes c hc⟩) ?_
    have := congrArg List.length hexp
    rw [Array.length_toList, List.length_append, Array.length_toList, Array.length_toList] at this
    show (applyAll #[] (rlePack (litLens.toList ++ distLens.toList))).size = litLens.size - 257 + 257 + (distLens.size - 1 + 1)
    omega

end Model.Rle
