/-
Composition of calls of the decoder model at the level of runs: re-basing a whole run, the checksum
register is carried unchanged, and — the resumption lemma `resume_run` — a run suspended for lack of input or
room reaches, when resumed over more input and a larger window, exactly what the uninterrupted run
reaches.
No property statements here (see Props/C07).
-/
import MinizProof.Lemmas.CoreBnd
import MinizProof.Lemmas.CoreSound
namespace Model.Core
open Spec

/-- `x'`: the checksum register is carried, reset only by the `Start` state. -/
theorem run_shift (e : Env) (a : Array UInt8) : ∀ (f : Nat) (c : Ctx) (out : Array UInt8) (x : Nat),
    Geo e c out → I c →
    ∃ x', (c.r.state ≠ sStart → x' = x) ∧
      run (e.pre a) f (T a.size x c) out =
        ((run e f c out).1, T a.size x' (run e f c out).2.1, (run e f c out).2.2) := by
  intro f
  induction f with
  | zero => intro c out x _ _; exact ⟨x, fun _ => rfl, rfl⟩
  | succ f ih =>
    intro c out x g hI
    have hok := step_ok g
    have hsi := step_I g hI
    obtain ⟨x1, hx1, hs⟩ := step_shift (e := e) (a := a) (c := c) (out := out) (x := x)
      (fun hb => by have := hI.q hb (by decide); unfold Q at this; omega)
    rw [run, run, hs]
    cases hst : step e c out with
    | cont c1 o1 =>
      rw [hst] at hok hsi
      obtain ⟨x2, hx2, h2⟩ := ih c1 o1 x1 hok.geo hsi.1
      refine ⟨x2, fun hns => ?_, h2⟩
      rw [hx2 hsi.2, hx1 hns]
    | fin st c1 o1 => exact ⟨x1, hx1, rfl⟩

theorem Env.pre_empty (e : Env) : e.pre #[] = e := by
  show ({ e with inp := #[] ++ e.inp } : Env) = e
  rw [Array.empty_append]

theorem T_zero (c : Ctx) : T 0 c.r.checkAdler32 c = c := by
  show ({ c with inPos := 0 + c.inPos, r := { c.r with checkAdler32 := c.r.checkAdler32 } } : Ctx) = c
  rw [Nat.zero_add]

theorem run_check (e : Env) (f : Nat) (c : Ctx) (out : Array UInt8) (g : Geo e c out) (hI : I c)
    (hns : c.r.state ≠ sStart) : (run e f c out).2.1.r.checkAdler32 = c.r.checkAdler32 := by
  obtain ⟨x', hx, h⟩ := run_shift e #[] f c out c.r.checkAdler32 g hI
  rw [Env.pre_empty] at h
  have h0 : (#[] : Array UInt8).size = 0 := rfl
  rw [h0, T_zero, hx hns] at h
  have := congrArg (fun R => R.2.1.r.checkAdler32) h
  exact this

theorem final_exists {e : Env} {c : Ctx} {out : Array UInt8} (g : Geo e c out) : ∃ R, Final e c out R :=
  ⟨_, mu e c + 1, rfl, finOK_ne_modelError (run_total e (mu e c + 1) c out g (Nat.lt_succ_self _))⟩

theorem Final.adv {e : Env} {c : Ctx} {out : Array UInt8} {R : Int × Ctx × Array UInt8} (g : Geo e c out)
    (h : Final e c out R) : Adv e c out R.2.1 R.2.2 := by
  obtain ⟨f, hf, _⟩ := h
  rw [← hf]; exact (run_ok e f c out g).1

theorem Final.geo {e : Env} {c : Ctx} {out : Array UInt8} {R : Int × Ctx × Array UInt8} (g : Geo e c out)
    (h : Final e c out R) : Geo e R.2.1 R.2.2 :=
  (h.adv g).geo

/-- Links compose through what runs end with: if whatever `e` reaches from `(x, ox)` it reaches from
    `(y, oy)`, the same holds of a linked call `e'`. Where `e` suspends, both continuations are the run
    of `e'` from where it suspended (which exists and is unique); where it does not, both are the result
    of `e` itself. -/
theorem Final.link_join {e e' : Env} {st₀ : Int} (hl : ∀ c out, Geo e c out → Link e e' st₀ c out (step e c out))
    {x y : Ctx} {ox oy : Array UInt8} (gx : Geo e x ox) (gy : Geo e y oy)
    (g1 : ∀ R1, Final e x ox R1 → Geo e' R1.2.1 R1.2.2) (h : ∀ R1, Final e x ox R1 → Final e y oy R1)
    {R : Int × Ctx × Array UInt8} (hR : Final e' x ox R) : Final e' y oy R := by
  obtain ⟨R1, hx⟩ := final_exists gx
  obtain ⟨R2, F2⟩ := final_exists (g1 R1 hx)
  obtain ⟨fy, hfy, _⟩ := h R1 hx
  obtain ⟨fx, hfx, hne⟩ := hx
  obtain ⟨x1, x2⟩ := run_link hl fx x ox R1 gx hfx hne
  obtain ⟨y1, y2⟩ := run_link hl fy y oy R1 gy hfy hne
  by_cases h0 : R1.1 = st₀
  · rw [Final.unique hR (x1 h0 R2 F2)]; exact y1 h0 R2 F2
  · rw [Final.unique hR (x2 h0)]; exact y2 h0

theorem resume_run (e : Env) (b : Array UInt8) (E2 : Nat) (hE : e.outEnd ≤ E2)
    (f : Nat) (c : Ctx) (out : Array UInt8) (st1 : Int) (c1 : Ctx) (out1 : Array UInt8)
    (g : Geo e c out) (hE2 : E2 ≤ out.size) (h : run e f c out = (st1, c1, out1))
    (hst : st1 = e.eoi ∨ st1 = stHasMoreOutput)
    (R : Int × Ctx × Array UInt8) (hR : Final ((e.ext b).grow E2) c1 out1 R) :
    Final ((e.ext b).grow E2) c out R := by
  have hadv := (run_ok e f c out g).1
  rw [h] at hadv
  have g1 : Geo (e.ext b) c1 out1 := hadv.geo.ext
  rcases hst with hst | hst
  · -- starved: continue over the longer input under the old window first
    rw [hst] at h
    exact Final.link_join (e := e.ext b) (grow_link hE) g1 g.ext
      (fun R1 F1 => (F1.adv g1).geo.grow hE (by rw [(F1.adv g1).frame.1, hadv.frame.1]; exact hE2))
      (run_split e b f c out c1 out1 g h) hR
  · -- out of room: the same stop over the longer input, then the larger window
    rw [hst] at h
    obtain ⟨f', hf', _⟩ := run_ext_same e b f c out stHasMoreOutput c1 out1 g h (hmo_ne_eoi e) hmo_ne_modelError
    exact run_grow (e.ext b) E2 hE f' c out c1 out1 g.ext hf' R hR

/-- the end of the second call's window, counted from the first call's position -/
theorem add_sub_add_of_le {p q b : Nat} (h : p ≤ q) : p + (q - p + b) = q + b := by
  rw [← Nat.add_assoc, Nat.add_sub_cancel' h]

theorem extract_split (a b : Array UInt8) (k : Nat) (hk : k ≤ a.size) :
    a.extract 0 k ++ (a.extract k a.size ++ b) = a ++ b := by
  rw [← Array.append_assoc, Array.extract_append_extract, Nat.zero_min, Nat.max_eq_right hk]
  simp

/-- TWO CALLS, at the level of runs. A call on `a` from registers `r` (sound buffer discipline)
    stops starved or for lack of room in `(c1, out1)`. A second call — on the unconsumed rest of `a`
    followed by `b`, from `c1`'s registers with any checksum register `x1`, writing where the first
    stopped, with a window that ends no earlier — runs to `(st2, c2, out2)`. Then the single call on
    `a ++ b` with that final window runs to the same status and buffer and to `c2` re-based by the
    bytes the first call consumed (with the first call's checksum register). -/
theorem calls_compose (r : Regs) (a b out : Array UInt8) (pos budget1 budget2 flags x1 : Nat)
    (hb : Bnd r) (hg : badGeometry flags out.size pos = false)
    (st1 : Int) (c1 : Ctx) (out1 : Array UInt8)
    (h1 : callRun r a out pos budget1 flags = (st1, c1, out1))
    (hst : st1 = endOfInput flags ∨ st1 = stHasMoreOutput)
    (hE : min (pos + budget1) out.size ≤ min (c1.outPos + budget2) out.size) :
    let r2 : Regs := { c1.r with checkAdler32 := x1 }
    let R2 := callRun r2 (a.extract c1.inPos a.size ++ b) out1 c1.outPos budget2 flags
    out1.size = out.size ∧ pos ≤ c1.outPos ∧ c1.inPos ≤ a.size ∧
    badGeometry flags out1.size c1.outPos = false ∧
    RunI (callEnv a out pos budget1 flags) st1 c1 ∧
    callRun r (a ++ b) out pos (c1.outPos - pos + budget2) flags =
      (R2.1, T c1.inPos c1.r.checkAdler32 R2.2.1, R2.2.2) ∧
    R2.2.1.r.checkAdler32 = x1 ∧
    RunI (callEnv (a.extract c1.inPos a.size ++ b) out1 c1.outPos budget2 flags) R2.1 R2.2.1 := by
  intro r2 R2
  have g0 : Geo (callEnv a out pos budget1 flags) { r := r, inPos := 0, outPos := pos } out := callGeo hg
  have hadv := callRun_adv r a out pos budget1 flags hg
  rw [h1] at hadv
  have g1 := hadv.geo
  have hsz : out1.size = out.size := hadv.frame.1
  have hmono : pos ≤ c1.outPos := hadv.mono
  have hk : c1.inPos ≤ a.size := g1.inLe
  have hne1 : (st1, c1, out1).1 ≠ stModelError := h1 ▸ callRun_ne r a out pos budget1 flags hg
  have hri := run_I _ _ _ out g0 (hb.toI 0 pos) st1 c1 out1 h1 hne1
  have hns := hri.2
  have hgeo2 : badGeometry flags out1.size c1.outPos = false :=
    hsz ▸ badGeometry_le hg (Nat.le_trans g1.outLe (Nat.min_le_right _ _))
  have hI2 : I { r := r2, inPos := 0, outPos := c1.outPos } := (hri.bnd hst x1).toI 0 c1.outPos
  have g2 : Geo (callEnv (a.extract c1.inPos a.size ++ b) out1 c1.outPos budget2 flags)
      { r := r2, inPos := 0, outPos := c1.outPos } out1 := callGeo hgeo2
  -- re-base the second run onto the whole input
  obtain ⟨x', hx', hsh⟩ := run_shift (callEnv (a.extract c1.inPos a.size ++ b) out1 c1.outPos budget2 flags)
    (a.extract 0 c1.inPos) (callFuel r2 (a.extract c1.inPos a.size ++ b) (min (c1.outPos + budget2) out1.size - c1.outPos))
    { r := r2, inPos := 0, outPos := c1.outPos } out1 c1.r.checkAdler32 g2 hI2
  have hx : x' = c1.r.checkAdler32 := hx' hns
  have hAsz : (a.extract 0 c1.inPos).size = c1.inPos := by rw [Array.size_extract, Nat.min_eq_left hk]; rfl
  rw [hAsz, hx] at hsh
  have hT : T c1.inPos c1.r.checkAdler32 { r := r2, inPos := 0, outPos := c1.outPos } = c1 := rfl
  rw [hT] at hsh
  have henv : (callEnv (a.extract c1.inPos a.size ++ b) out1 c1.outPos budget2 flags).pre (a.extract 0 c1.inPos) =
      ((callEnv a out pos budget1 flags).ext b).grow (min (c1.outPos + budget2) out.size) := by
    show ({ inp := a.extract 0 c1.inPos ++ (a.extract c1.inPos a.size ++ b), flags := flags, outLen := out1.size,
            outEnd := min (c1.outPos + budget2) out1.size } : Env) =
         { inp := a ++ b, flags := flags, outLen := out.size, outEnd := min (c1.outPos + budget2) out.size }
    rw [extract_split a b _ hk, hsz]
  rw [henv] at hsh
  have hR2ne : R2.1 ≠ stModelError := callRun_ne r2 (a.extract c1.inPos a.size ++ b) out1 c1.outPos budget2 flags hgeo2
  have hFc1 : Final (((callEnv a out pos budget1 flags).ext b).grow (min (c1.outPos + budget2) out.size)) c1 out1
      (R2.1, T c1.inPos c1.r.checkAdler32 R2.2.1, R2.2.2) := ⟨_, hsh, hR2ne⟩
  have hres := resume_run (callEnv a out pos budget1 flags) b (min (c1.outPos + budget2) out.size) hE
    _ _ out st1 c1 out1 g0 (Nat.min_le_right _ _) h1 hst _ hFc1
  -- the single call
  have hgO := callFinal r (a ++ b) out pos (c1.outPos - pos + budget2) flags hg
  have henvO : callEnv (a ++ b) out pos (c1.outPos - pos + budget2) flags =
      ((callEnv a out pos budget1 flags).ext b).grow (min (c1.outPos + budget2) out.size) := by
    show ({ inp := a ++ b, flags := flags, outLen := out.size, outEnd := min (pos + (c1.outPos - pos + budget2)) out.size } : Env) = _
    rw [add_sub_add_of_le hmono]; rfl
  rw [henvO] at hgO
  have hchk := run_check _ (callFuel r2 (a.extract c1.inPos a.size ++ b) (min (c1.outPos + budget2) out1.size - c1.outPos))
    { r := r2, inPos := 0, outPos := c1.outPos } out1 g2 hI2 hns
  exact ⟨hsz, hmono, hk, hgeo2, hri, Final.unique hgO hres, hchk,
    run_I _ _ _ out1 g2 hI2 R2.1 R2.2.1 R2.2.2 rfl hR2ne⟩

end Model.Core
