/-
Block-level simulation of the specification's reference decoder by the decoder model: the block
header for each of the three block types (`micro_header_*`; a fixed-Huffman block has its tables ready in
the same transition) and the stored block (`sim_storedHeader`, `sim_stored`).
Helper lemmas for the refinement theorems (Props/C03, C06).
-/
import MinizProof.Lemmas.CoreTokens
import MinizProof.Lemmas.FixedCodes
namespace Model.Core
open Spec

theorem bitsAt_add (data : Array UInt8) (n : Nat) : ∀ (m pos a b : Nat),
    bitsAt data pos m = some a → bitsAt data (pos + m) n = some b →
    bitsAt data pos (m + n) = some (a + 2 ^ m * b) := by
  intro m
  induction m with
  | zero =>
    intro pos a b ha hb
    simp only [bitsAt, Option.some.injEq] at ha
    simp only [Nat.zero_add, Nat.add_zero, Nat.pow_zero, Nat.one_mul] at hb ⊢
    rw [hb, ← ha, Nat.zero_add]
  | succ m ih =>
    intro pos a b ha hb
    have e : m + 1 + n = (m + n) + 1 := by omega
    rw [e]
    unfold bitsAt at ha ⊢
    cases h0 : bitAt data pos with
    | none => simp [h0] at ha
    | some b0 =>
      cases h1 : bitsAt data (pos + 1) m with
      | none => simp [h0, h1] at ha
      | some a1 =>
        simp only [h0, h1, Option.some.injEq] at ha
        have e2 : pos + 1 + m = pos + (m + 1) := by omega
        rw [ih (pos + 1) a1 b h1 (by rw [e2]; exact hb)]
        simp only [Option.some.injEq]
        rw [← ha, Nat.pow_succ, Nat.mul_add, Nat.add_assoc, Nat.mul_comm (2 ^ m) 2, Nat.mul_assoc]

theorem bitsAt_byte8 {data : Array UInt8} {k : Nat} {b : UInt8} (h : data[k]? = some b) :
    bitsAt data (8 * k) 8 = some b.toNat := by
  have := bitsAt_of_bits data 8 (8 * k) b.toNat (fun i hi => bitAt_byte h i hi)
  rw [this]
  have : b.toNat < 2 ^ 8 := b.toNat_lt
  rw [Nat.mod_eq_of_lt this]

/-- zlib registers: untouched by everything between the header and the trailer. -/
structure InvZ (c c' : Ctx) : Prop where
  z0     : c'.r.zHeader0 = c.r.zHeader0
  z1     : c'.r.zHeader1 = c.r.zHeader1
  zA     : c'.r.zAdler32 = c.r.zAdler32
  chk    : c'.r.checkAdler32 = c.r.checkAdler32

theorem InvZ.refl (c : Ctx) : InvZ c c := ⟨rfl, rfl, rfl, rfl⟩
theorem InvZ.trans {a b c : Ctx} (h1 : InvZ a b) (h2 : InvZ b c) : InvZ a c :=
  ⟨h2.z0.trans h1.z0, h2.z1.trans h1.z1, h2.zA.trans h1.zA, h2.chk.trans h1.chk⟩
theorem InvZ.of_inv {c c' : Ctx} (i : Inv c c') : InvZ c c' := ⟨i.z0, i.z1, i.zA, i.chk⟩
theorem InvZ.of_read {inp : Array UInt8} {c c' : Ctx} (h : ReadOK inp c c') : InvZ c c' :=
  InvZ.of_inv (Inv.of_read h)

/-- Sizes of the array registers (kept by every transition). -/
def Shape (c : Ctx) : Prop := c.r.rawHeader.size = 4 ∧ c.r.tableSizes.size = 3 ∧ c.r.lenCodes.size = 512

theorem Shape.of_read {inp : Array UInt8} {c c' : Ctx} (h : ReadOK inp c c') (sh : Shape c) : Shape c' := by
  unfold Shape
  rw [h.regs]
  exact sh

variable {e : Env} {c : Ctx} {outA : Array UInt8}

theorem micro_header_stored {pos hdr : Nat} (hs : c.r.state = sReadBlockHeader) (hr : Rep e.inp c pos)
    (hv : bitsAt e.inp pos 3 = some hdr) (hbt : hdr / 2 = 0) :
    ∃ c1, step e c outA = .cont c1 outA ∧ c1.r.state = sBlockTypeNoCompression ∧ c1.r.finish = hdr % 2 ∧
      Rep e.inp c1 (pos + 3) ∧ (c.r.numBits < 8 → c1.r.numBits < 8) ∧ c1.outPos = c.outPos ∧ InvZ c c1 ∧
      (Shape c → Shape c1) := by
  obtain ⟨c1, hrb, hr1, h8, hok, _⟩ := readBits_full hr hv
  rw [step_ReadBlockHeader hs]
  unfold stReadBlockHeader
  rw [hrb]
  have hz : hdr / 2 % 4 = 0 := by omega
  simp only [hz, ↓reduceIte]
  have i := InvZ.of_read hok
  exact ⟨_, rfl, rfl, rfl, hr1.of_eq rfl rfl rfl, h8, hok.outPos, ⟨i.z0, i.z1, i.zA, i.chk⟩,
    fun sh => (Shape.of_read hok sh : Shape c1)⟩

theorem micro_header_fixed {pos hdr : Nat} (hs : c.r.state = sReadBlockHeader) (hr : Rep e.inp c pos)
    (hv : bitsAt e.inp pos 3 = some hdr) (hbt : hdr / 2 = 1) :
    ∃ c1, step e c outA = .cont c1 outA ∧ c1.r.state = sDecodeLitlen ∧ c1.r.finish = hdr % 2 ∧
      c1.r.litCode = fixedLitCode ∧ c1.r.distCode = fixedDistCode ∧
      Rep e.inp c1 (pos + 3) ∧ (c.r.numBits < 8 → c1.r.numBits < 8) ∧ c1.outPos = c.outPos ∧ InvZ c c1 ∧
      (Shape c → Shape c1) := by
  obtain ⟨c1, hrb, hr1, h8, hok, _⟩ := readBits_full hr hv
  rw [step_ReadBlockHeader hs]
  unfold stReadBlockHeader
  rw [hrb]
  have hz : hdr / 2 % 4 = 1 := by omega
  simp only [hz, ↓reduceIte, Nat.succ_ne_self]
  unfold initTree
  simp only [Nat.reduceEqDiff, ↓reduceIte, fixed_dist_valid, fixed_lit_valid, Bool.not_true,
    Bool.false_eq_true]
  have i := InvZ.of_read hok
  exact ⟨_, rfl, rfl, rfl, rfl, rfl, hr1.of_eq rfl rfl rfl, h8, hok.outPos, ⟨i.z0, i.z1, i.zA, i.chk⟩,
    fun sh => ⟨(Shape.of_read hok sh).1, rfl, (Shape.of_read hok sh).2.2⟩⟩

theorem micro_header_dynamic {pos hdr : Nat} (hs : c.r.state = sReadBlockHeader) (hr : Rep e.inp c pos)
    (hv : bitsAt e.inp pos 3 = some hdr) (hbt : hdr / 2 = 2) :
    ∃ c1, step e c outA = .cont c1 outA ∧ c1.r.state = sReadTableSizes ∧ c1.r.finish = hdr % 2 ∧
      c1.r.counter = 0 ∧ c1.r.blockType = 2 ∧
      Rep e.inp c1 (pos + 3) ∧ (c.r.numBits < 8 → c1.r.numBits < 8) ∧ c1.outPos = c.outPos ∧ InvZ c c1 ∧
      (Shape c → Shape c1) := by
  obtain ⟨c1, hrb, hr1, h8, hok, _⟩ := readBits_full hr hv
  rw [step_ReadBlockHeader hs]
  unfold stReadBlockHeader
  rw [hrb]
  have hz : hdr / 2 % 4 = 2 := by omega
  simp only [hz, ↓reduceIte, Nat.succ_ne_self, Nat.reduceEqDiff]
  have i := InvZ.of_read hok
  exact ⟨_, rfl, rfl, rfl, rfl, rfl, hr1.of_eq rfl rfl rfl, h8, hok.outPos, ⟨i.z0, i.z1, i.zA, i.chk⟩,
    fun sh => (Shape.of_read hok sh : Shape c1)⟩

theorem copyStored_spec (data : Array UInt8) (n : Nat) : ∀ (q : Nat) (o o' : Array UInt8),
    copyStored data q o n = some o' → (0 < n → q + n ≤ data.size) ∧ o'.size = o.size + n := by
  induction n with
  | zero => intro q o o' h; simp [copyStored] at h; subst h; exact ⟨fun h => by omega, rfl⟩
  | succ n ih =>
    intro q o o' h
    unfold copyStored at h
    cases hb : data[q]? with
    | none => simp [hb] at h
    | some b =>
      simp only [hb] at h
      have := ih _ _ _ h
      have hq : q < data.size := getElem?_some_lt hb
      simp at this
      refine ⟨fun _ => ?_, by omega⟩
      by_cases hn : 0 < n
      · have := this.1 hn; omega
      · omega

theorem copyStored_append (data pre : Array UInt8) (n : Nat) : ∀ (q : Nat) (o o' : Array UInt8),
    copyStored data q o n = some o' → copyStored data q (pre ++ o) n = some (pre ++ o') := by
  induction n with
  | zero => intro q o o' h; simp [copyStored] at h ⊢; rw [h]
  | succ n ih =>
    intro q o o' h
    unfold copyStored at h ⊢
    cases hb : data[q]? with
    | none => simp [hb] at h
    | some b =>
      simp only [hb] at h ⊢
      rw [← Array.append_push]
      exact ih _ _ _ h

theorem bitsAt16_of_bytes {data : Array UInt8} {k : Nat} {b0 b1 : UInt8} (h0 : data[k]? = some b0)
    (h1 : data[k + 1]? = some b1) : bitsAt data (8 * k) 16 = some (b0.toNat + 256 * b1.toNat) := by
  have a1 := bitsAt_byte8 h1
  exact bitsAt_add data 8 8 (8 * k) _ _ (bitsAt_byte8 h0) a1

theorem bitsAt16_bytes {data : Array UInt8} {k v : Nat} (h : bitsAt data (8 * k) 16 = some v) :
    ∃ b0 b1, data[k]? = some b0 ∧ data[k + 1]? = some b1 ∧ v = b0.toNat + 256 * b1.toNat := by
  obtain ⟨b0, hb0⟩ := bitAt_isSome_byte (bitsAt_some_bitAt data 16 (8 * k) v h 0 (by omega))
  obtain ⟨b1, hb1⟩ := bitAt_isSome_byte (bitsAt_some_bitAt data 16 (8 * k) v h 8 (by omega))
  rw [show (8 * k + 0) / 8 = k by omega] at hb0
  rw [show (8 * k + 8) / 8 = k + 1 by omega] at hb1
  exact ⟨b0, b1, hb0, hb1, Option.some.inj (h.symm.trans (bitsAt16_of_bytes hb0 hb1))⟩

/-- Registers a stored block leaves alone. -/
structure InvS (c c' : Ctx) : Prop where
  finish : c'.r.finish = c.r.finish
  z      : InvZ c c'
  ts     : c'.r.tableSizes = c.r.tableSizes
  lc     : c'.r.lenCodes = c.r.lenCodes
  rhsz   : c'.r.rawHeader.size = c.r.rawHeader.size

theorem InvS.refl (c : Ctx) : InvS c c := ⟨rfl, InvZ.refl c, rfl, rfl, rfl⟩
theorem InvS.trans {a b c : Ctx} (h1 : InvS a b) (h2 : InvS b c) : InvS a c :=
  ⟨h2.finish.trans h1.finish, h1.z.trans h2.z, h2.ts.trans h1.ts, h2.lc.trans h1.lc, h2.rhsz.trans h1.rhsz⟩
theorem InvS.of_read {inp : Array UInt8} {c c' : Ctx} (h : ReadOK inp c c') : InvS c c' := by
  have i := Inv.of_read h
  exact ⟨i.finish, InvZ.of_inv i, i.ts, i.lc, by rw [i.rh]⟩

theorem rawHeader_step {k : Nat} {b : UInt8} (hs : c.r.state = sRawHeader) (hc : c.r.counter = k) (hk : k < 4)
    (hnb : c.r.numBits = 0) (hb : e.inp[c.inPos]? = some b) :
    ∃ c1, step e c outA = .cont c1 outA ∧ c1.r.state = sRawHeader ∧ c1.r.counter = k + 1 ∧ c1.r.numBits = 0 ∧
      c1.r.bitBuf = c.r.bitBuf ∧ c1.inPos = c.inPos + 1 ∧ c1.outPos = c.outPos ∧
      c1.r.rawHeader = c.r.rawHeader.setIfInBounds k b.toNat ∧ InvS c c1 := by
  have hk' : c.r.counter < 4 := hc ▸ hk
  have : step e c outA = .cont { c with r := { c.r with rawHeader := c.r.rawHeader.setIfInBounds c.r.counter b.toNat,
                                                         counter := c.r.counter + 1 }, inPos := c.inPos + 1 } outA := by
    rw [step_RawHeader hs]
    unfold stRawHeader
    simp only [hk', ↓reduceIte, hnb, ne_eq, not_true_eq_false, hb]
  refine ⟨_, this, hs, by simp [hc], hnb, rfl, rfl, rfl, by simp [hc], ⟨rfl, ⟨rfl, rfl, rfl, rfl⟩, rfl, rfl, by simp⟩⟩

/-- The fifth `RawHeader` transition: LEN / NLEN check and dispatch (empty bit buffer). -/
theorem rawHeader_done {b0 b1 b2 b3 : Nat} (hs : c.r.state = sRawHeader) (hc : c.r.counter = 4)
    (hnb : c.r.numBits = 0)
    (h0 : c.r.rawHeader.getD 0 0 = b0) (h1 : c.r.rawHeader.getD 1 0 = b1)
    (h2 : c.r.rawHeader.getD 2 0 = b2) (h3 : c.r.rawHeader.getD 3 0 = b3) :
    step e c outA = .cont (setState { c with r := { c.r with counter := b0 + 256 * b1 } }
      (if (b0 + 256 * b1) + (b2 + 256 * b3) ≠ 65535 then sBadRawLength
        else if b0 + 256 * b1 = 0 then sBlockDone else sRawMemcpy1)) outA := by
  rw [step_RawHeader hs]
  unfold stRawHeader
  rw [if_neg (by omega : ¬ c.r.counter < 4)]
  rw [h0, h1, h2, h3]
  by_cases hchk : (b0 + 256 * b1) + (b2 + 256 * b3) ≠ 65535
  · rw [if_pos hchk, if_pos hchk]
  · rw [if_neg hchk, if_neg hchk]
    by_cases hz : b0 + 256 * b1 = 0
    · rw [if_pos hz, if_pos hz]
    · rw [if_neg hz, if_neg hz, if_neg (Decidable.not_not.mpr hnb)]

theorem micro_memcpy1_go (hs : c.r.state = sRawMemcpy1) (h1 : c.r.counter ≠ 0) (h2 : c.outPos < e.outEnd) :
    step e c outA = .cont (setState c sRawMemcpy2) outA := by
  rw [step_RawMemcpy1 hs]; unfold stRawMemcpy1 wrBytesLeft
  have h2' : ¬ (e.outEnd - c.outPos = 0) := by omega
  simp only [h1, h2', ↓reduceIte]

theorem micro_memcpy1_done (hs : c.r.state = sRawMemcpy1) (h1 : c.r.counter = 0) :
    step e c outA = .cont (setState c sBlockDone) outA := by
  rw [step_RawMemcpy1 hs]; unfold stRawMemcpy1
  simp only [h1, ↓reduceIte]

theorem micro_memcpy2 {len : Nat} (hs : c.r.state = sRawMemcpy2) (hin : c.inPos < e.inp.size)
    (hmin : min (min (e.outEnd - c.outPos) (e.inp.size - c.inPos)) c.r.counter = len) :
    ∃ c2, step e c outA = .cont c2 (copyIn e.inp outA c.outPos c.inPos len) ∧ c2.r.state = sRawMemcpy1 ∧
      c2.r.counter = c.r.counter - len ∧ c2.inPos = c.inPos + len ∧ c2.outPos = c.outPos + len ∧
      c2.r.numBits = c.r.numBits ∧ c2.r.bitBuf = c.r.bitBuf ∧ InvS c c2 := by
  rw [step_RawMemcpy2 hs]; unfold stRawMemcpy2 wrBytesLeft
  simp only [hin, ↓reduceIte, hmin]
  exact ⟨_, rfl, rfl, rfl, rfl, rfl, rfl, rfl, ⟨rfl, ⟨rfl, rfl, rfl, rfl⟩, rfl, rfl, rfl⟩⟩

/-- The body of a stored block: `RawMemcpy1` → `RawMemcpy2` → `RawMemcpy1` → `BlockDone`. -/
theorem sim_memcpy {len : Nat} {full full' : Array UInt8} (hend : e.outEnd ≤ e.outLen)
    (hs : c.r.state = sRawMemcpy1) (hc : c.r.counter = len) (hpos : 0 < len)
    (ho : c.outPos = full.size) (heq : OutEq outA full) (hsz : outA.size = e.outLen)
    (hcopy : copyStored e.inp c.inPos full len = some full') (hroom : full'.size ≤ e.outEnd) :
    ∃ c3 outA3, Reaches e c outA c3 outA3 ∧ c3.r.state = sBlockDone ∧ c3.inPos = c.inPos + len ∧
      c3.r.numBits = c.r.numBits ∧ c3.r.bitBuf = c.r.bitBuf ∧ c3.outPos = full'.size ∧ OutEq outA3 full' ∧
      outA3.size = e.outLen ∧ InvS c c3 := by
  obtain ⟨havail, hsize⟩ := copyStored_spec e.inp len c.inPos full full' hcopy
  have havail := havail hpos
  rw [hsize, ← ho] at hroom
  have hmin : min (min (e.outEnd - c.outPos) (e.inp.size - c.inPos)) c.r.counter = len := by
    rw [hc, Nat.min_eq_right]
    exact Nat.le_min.mpr ⟨Nat.le_sub_of_add_le' hroom, Nat.le_sub_of_add_le' havail⟩
  have hst1 := micro_memcpy1_go (e := e) (outA := outA) hs (by rw [hc]; exact Nat.ne_of_gt hpos)
    (Nat.lt_of_lt_of_le (Nat.lt_add_of_pos_right hpos) hroom)
  obtain ⟨c2, hst2, hs2, hc2, hi2, ho2, hn2, hb2, i2⟩ :=
    micro_memcpy2 (e := e) (c := setState c sRawMemcpy2) (outA := outA) (len := len) rfl
      (Nat.lt_of_lt_of_le (Nat.lt_add_of_pos_right hpos) havail) hmin
  have hst3 := micro_memcpy1_done (e := e) (c := c2) (outA := copyIn e.inp outA c.outPos c.inPos len) hs2
    (by rw [hc2]; show c.r.counter - len = 0; rw [hc]; exact Nat.sub_self _)
  refine ⟨setState c2 sBlockDone, _, (Reaches.of_step hst1).trans ((Reaches.of_step hst2).trans (Reaches.of_step hst3)),
    rfl, hi2, hn2, hb2, by show c2.outPos = _; rw [ho2, hsize, ← ho]; rfl, ?_, ?_,
    ⟨i2.finish, ⟨i2.z.z0, i2.z.z1, i2.z.zA, i2.z.chk⟩, i2.ts, i2.lc, i2.rhsz⟩⟩
  · rw [ho]; exact copyIn_sim e.inp len outA full c.inPos full' heq (by rw [← ho, hsz]; exact Nat.le_trans hroom hend) hcopy
  · rw [(copyIn_sameOutside _ _ _ _ _).1]; exact hsz

/-- Dropping the `n < 8` buffered bits pulls no byte and leaves the cursor at the byte boundary. -/
theorem align_arith {i i1 p n n1 : Nat} (h : 8 * i = p + n) (h1 : 8 * i1 = p + n + n1) (hn : n < 8) (hn1 : n1 < 8) :
    n1 = 0 ∧ i1 = (p + 7) / 8 := by
  omega

theorem micro_noCompression {pos : Nat} (hs : c.r.state = sBlockTypeNoCompression) (hr : Rep e.inp c pos)
    (h8 : c.r.numBits < 8) :
    ∃ c1, step e c outA = .cont c1 outA ∧ c1.r.state = sRawHeader ∧ c1.r.counter = 0 ∧ c1.r.numBits = 0 ∧
      c1.r.bitBuf = 0 ∧ c1.inPos = (pos + 7) / 8 ∧ c1.inPos ≤ e.inp.size ∧ c1.outPos = c.outPos ∧ InvS c c1 := by
  have hm : c.r.numBits % 8 = c.r.numBits := Nat.mod_eq_of_lt h8
  obtain ⟨c1, hrb, hr1, h81, hok, _⟩ := readBits_full hr (bitsAt_of_rep hr c.r.numBits (Nat.le_refl _))
  obtain ⟨hnb1, hi1⟩ := align_arith hr.posEq hr1.posEq h8 (h81 h8)
  have hlt := hr1.lt
  rw [hnb1] at hlt
  have i := InvS.of_read hok
  refine ⟨setState { c1 with r := { c1.r with counter := 0 } } sRawHeader, ?_, rfl, rfl, hnb1, Nat.lt_one_iff.mp hlt,
    hi1, hr1.inLe, hok.outPos, ⟨i.finish, ⟨i.z.z0, i.z.z1, i.z.zA, i.z.chk⟩, i.ts, i.lc, i.rhsz⟩⟩
  rw [step_BlockTypeNoCompression hs]; unfold stBlockTypeNoCompression; rw [hm, hrb]

theorem set4 (t : Array Nat) (h : t.size = 4) (x y z w : Nat) :
    (((t.setIfInBounds 0 x).setIfInBounds 1 y).setIfInBounds 2 z).setIfInBounds 3 w = #[x, y, z, w] := by
  obtain ⟨l⟩ := t
  match l, h with
  | [a, b, c, d], _ => rfl

theorem sim_rawHeader_bytes {b0 b1 b2 b3 : UInt8} (hs : c.r.state = sRawHeader) (hc : c.r.counter = 0)
    (hnb : c.r.numBits = 0) (hrh : c.r.rawHeader.size = 4)
    (h0 : e.inp[c.inPos]? = some b0) (h1 : e.inp[c.inPos + 1]? = some b1)
    (h2 : e.inp[c.inPos + 1 + 1]? = some b2) (h3 : e.inp[c.inPos + 1 + 1 + 1]? = some b3) :
    ∃ d, Reaches e c outA d outA ∧ d.r.state = sRawHeader ∧ d.r.counter = 4 ∧ d.r.numBits = 0 ∧
      d.r.bitBuf = c.r.bitBuf ∧ d.inPos = c.inPos + 4 ∧ d.outPos = c.outPos ∧
      d.r.rawHeader = #[b0.toNat, b1.toNat, b2.toNat, b3.toNat] ∧ InvS c d := by
  obtain ⟨d1, hd1, hs1, hc1, hn1, hbb1, hi1, ho1, hrh1, i1⟩ := rawHeader_step (outA := outA) hs hc (by omega) hnb h0
  obtain ⟨d2, hd2, hs2, hc2, hn2, hbb2, hi2, ho2, hrh2, i2⟩ :=
    rawHeader_step (outA := outA) hs1 hc1 (by omega) hn1 (by rw [hi1]; exact h1)
  obtain ⟨d3, hd3, hs3, hc3, hn3, hbb3, hi3, ho3, hrh3, i3⟩ :=
    rawHeader_step (outA := outA) hs2 hc2 (by omega) hn2 (by rw [hi2, hi1]; exact h2)
  obtain ⟨d4, hd4, hs4, hc4, hn4, hbb4, hi4, ho4, hrh4, i4⟩ :=
    rawHeader_step (outA := outA) hs3 hc3 (by omega) hn3 (by rw [hi3, hi2, hi1]; exact h3)
  exact ⟨d4, (Reaches.of_step hd1).trans ((Reaches.of_step hd2).trans ((Reaches.of_step hd3).trans (Reaches.of_step hd4))),
    hs4, hc4, hn4, by rw [hbb4, hbb3, hbb2, hbb1], by rw [hi4, hi3, hi2, hi1], by rw [ho4, ho3, ho2, ho1],
    by rw [hrh4, hrh3, hrh2, hrh1]; exact set4 _ hrh _ _ _ _, i1.trans (i2.trans (i3.trans i4))⟩

/-- THE STORED BLOCK HEADER: from `BlockTypeNoCompression` (just behind the 3 header bits) over LEN and NLEN to the
    state their comparison leads to. -/
theorem sim_storedHeader {P len nlen : Nat} {full : Array UInt8}
    (hs : c.r.state = sBlockTypeNoCompression) (hsim : Sim e c outA P full) (hrh : c.r.rawHeader.size = 4)
    (hlen : bitsAt e.inp (8 * ((P + 7) / 8)) 16 = some len)
    (hnlen : bitsAt e.inp (8 * ((P + 7) / 8) + 16) 16 = some nlen) :
    ∃ c5, Reaches e c outA c5 outA ∧
      c5.r.state = (if len + nlen ≠ 65535 then sBadRawLength else if len = 0 then sBlockDone else sRawMemcpy1) ∧
      c5.r.counter = len ∧ c5.r.numBits = 0 ∧ c5.r.bitBuf = 0 ∧ c5.inPos = (P + 7) / 8 + 4 ∧ c5.inPos ≤ e.inp.size ∧
      c5.outPos = full.size ∧ InvS c c5 := by
  obtain ⟨c1, st1, hs1, hc1, hn1, hbb1, hi1, hle1, ho1, i1⟩ := micro_noCompression (outA := outA) hs hsim.rep hsim.nb8
  rw [← hi1] at hlen hnlen ⊢
  obtain ⟨b0, b1, hb0, hb1, hlenv⟩ := bitsAt16_bytes hlen
  rw [show 8 * c1.inPos + 16 = 8 * (c1.inPos + 1 + 1) by omega] at hnlen
  obtain ⟨b2, b3, hb2, hb3, hnlenv⟩ := bitsAt16_bytes hnlen
  obtain ⟨d4, r4, hs4, hc4, hn4, hbb4, hi4, ho4, hrhv, i4⟩ :=
    sim_rawHeader_bytes (outA := outA) hs1 hc1 hn1 (i1.rhsz.trans hrh) hb0 hb1 hb2 hb3
  have st5 := rawHeader_done (e := e) (outA := outA) (b0 := b0.toNat) (b1 := b1.toNat) (b2 := b2.toNat) (b3 := b3.toNat)
    hs4 hc4 hn4 (by rw [hrhv]; rfl) (by rw [hrhv]; rfl) (by rw [hrhv]; rfl) (by rw [hrhv]; rfl)
  rw [← hlenv, ← hnlenv] at st5
  exact ⟨_, (Reaches.of_step st1).trans (r4.trans (Reaches.of_step st5)), rfl, rfl, hn4, hbb4.trans hbb1, hi4,
    hi4 ▸ getElem?_some_lt hb3, ho4.trans (ho1.trans hsim.outPos),
    i1.trans (i4.trans ⟨rfl, ⟨rfl, rfl, rfl, rfl⟩, rfl, rfl, rfl⟩)⟩

/-- THE STORED BLOCK: from `BlockTypeNoCompression` (just behind the 3 header bits) to `BlockDone`. -/
theorem sim_stored {P len nlen : Nat} {full full' : Array UInt8} (hend : e.outEnd ≤ e.outLen)
    (hs : c.r.state = sBlockTypeNoCompression) (hsim : Sim e c outA P full) (hrh : c.r.rawHeader.size = 4)
    (hlen : bitsAt e.inp (8 * ((P + 7) / 8)) 16 = some len)
    (hnlen : bitsAt e.inp (8 * ((P + 7) / 8) + 16) 16 = some nlen) (hchk : len + nlen = 65535)
    (hcopy : copyStored e.inp ((P + 7) / 8 + 4) full len = some full') (hroom : full'.size ≤ e.outEnd) :
    ∃ c' outA', Reaches e c outA c' outA' ∧ c'.r.state = sBlockDone ∧
      Sim e c' outA' (8 * ((P + 7) / 8 + 4 + len)) full' ∧ c'.r.finish = c.r.finish ∧ InvZ c c' ∧
      c'.r.rawHeader.size = 4 ∧ c'.r.tableSizes = c.r.tableSizes ∧ c'.r.lenCodes = c.r.lenCodes := by
  obtain ⟨c5, r5, hs5, hc5, hn5, hbb5, hi5, hle5, ho5, i5⟩ := sim_storedHeader (outA := outA) hs hsim hrh hlen hnlen
  rw [if_neg (fun h => h hchk)] at hs5
  rw [← hi5] at hcopy ⊢
  -- at the end of the block the bit buffer is empty again
  have fin : ∀ (c' : Ctx) (outA' : Array UInt8), c'.inPos = c5.inPos + len → c'.inPos ≤ e.inp.size →
      c'.r.numBits = 0 → c'.r.bitBuf = 0 → c'.outPos = full'.size → OutEq outA' full' → outA'.size = e.outLen →
      InvS c c' → Sim e c' outA' (8 * (c5.inPos + len)) full' ∧ c'.r.finish = c.r.finish ∧ InvZ c c' ∧
        c'.r.rawHeader.size = 4 ∧ c'.r.tableSizes = c.r.tableSizes ∧ c'.r.lenCodes = c.r.lenCodes :=
    fun c' outA' hi hle hn hb ho heq hsz i =>
      ⟨⟨hi ▸ Rep.of_empty hle hn hb, by rw [hn]; decide, ho, heq, hsz⟩, i.finish, i.z, i.rhsz.trans hrh, i.ts, i.lc⟩
  by_cases hz : len = 0
  · rw [if_pos hz] at hs5
    subst hz
    simp only [copyStored, Option.some.injEq] at hcopy
    subst hcopy
    exact ⟨c5, outA, r5, hs5, fin c5 outA rfl hle5 hn5 hbb5 ho5 hsim.outEq hsim.size i5⟩
  · rw [if_neg hz] at hs5
    obtain ⟨c3, outA3, r3, hs3, hi3, hn3, hb3', ho3, heq3, hsz3, i3⟩ :=
      sim_memcpy (outA := outA) hend hs5 hc5 (Nat.pos_of_ne_zero hz) ho5 hsim.outEq hsim.size hcopy hroom
    exact ⟨c3, outA3, r5.trans r3, hs3,
      fin c3 outA3 hi3 (by rw [hi3]; exact (copyStored_spec _ _ _ _ _ hcopy).1 (Nat.pos_of_ne_zero hz))
        (by rw [hn3, hn5]) (by rw [hb3', hbb5]) ho3 heq3 hsz3 (i5.trans i3)⟩

end Model.Core
