/-
`inflateBlock_cases` is the one place where `Spec.inflateBlock` is unfolded for a block whose verdict is not
known beforehand: it lists the thirteen ways a block comes to its verdict behind its three header bits
(`inflateBlock_short` is the case without them), each with what was read on the way, so the forward
simulation (`sim_block`), the converse (`block_ends`), the fuel argument (`inflateBlock_fuel`) and the size
bound (`inflateBlock_size_le`) are one `refine` each, with the cases that do not concern them closed by
`nofun` / `trivial`. (The encoder specification, `Enc*`, knows every field the decoder will read and
evaluates `inflateBlock` along that one path.) `Verdict.map`, `Verdict.stop` and `Decided` are the
vocabulary of its cases.
-/
import MinizProof.Spec.Inflate
namespace Spec

theorem sortedSyms_foldl_lt (lens : Array Nat) (len : Nat) : ∀ (l : List Nat) (acc : Array Nat),
    (∀ x ∈ l, x < lens.size) → (∀ x ∈ acc.toList, x < lens.size) →
    ∀ x ∈ (l.foldl (fun a s => if lens.getD s 0 = len then a.push s else a) acc).toList, x < lens.size := by
  intro l
  induction l with
  | nil => intro acc _ h; exact h
  | cons s l ih =>
    intro acc hl hacc
    simp only [List.foldl_cons]
    apply ih
    · intro x hx; exact hl x (List.mem_cons_of_mem _ hx)
    · intro x hx
      split at hx
      · simp only [Array.toList_push, List.mem_append, List.mem_singleton] at hx
        rcases hx with hx | hx
        · exact hacc x hx
        · rw [hx]; exact hl s (List.mem_cons_self ..)
      · exact hacc x hx

theorem sortedSymsAux_lt (lens : Array Nat) : ∀ (fuel len : Nat) (acc : Array Nat),
    (∀ x ∈ acc.toList, x < lens.size) → ∀ x ∈ (sortedSymsAux lens fuel len acc).toList, x < lens.size := by
  intro fuel
  induction fuel with
  | zero => intro len acc h; exact h
  | succ fuel ih =>
    intro len acc h
    unfold sortedSymsAux
    apply ih
    exact sortedSyms_foldl_lt lens len _ acc (fun x hx => List.mem_range.mp hx) h

theorem decodeSymAux_mem (c : Code) (data : Array UInt8) : ∀ (fuel len pos code first index s p : Nat),
    decodeSymAux c data fuel len pos code first index = .sym s p → s = 0 ∨ s ∈ c.syms.toList := by
  intro fuel
  induction fuel with
  | zero => intro len pos code first index s p h; simp [decodeSymAux] at h
  | succ fuel ih =>
    intro len pos code first index s p h
    unfold decodeSymAux at h
    split at h
    · simp at h
    · cases hb : bitAt data pos with
      | none => simp [hb] at h
      | some b =>
        simp only [hb] at h
        split at h
        · simp only [SymResult.sym.injEq] at h
          rw [← h.1, Array.getD_eq_getD_getElem?]
          cases hg : c.syms[index + (code + b - first)]? with
          | none => left; rfl
          | some v =>
            right
            simp only [Option.getD_some]
            have := Array.mem_of_getElem? hg
            exact Array.mem_toList_iff.mpr this
        · exact ih _ _ _ _ _ _ _ h

theorem decodeSym_lt {lens : Array Nat} {data : Array UInt8} {pos s p : Nat} (h0 : 0 < lens.size)
    (h : decodeSym (mkCode lens) data pos = .sym s p) : s < lens.size := by
  rcases decodeSymAux_mem _ _ _ _ _ _ _ _ _ _ h with h | h
  · omega
  · exact sortedSymsAux_lt lens 15 1 #[] (by simp) s h

theorem readClens_zero (data : Array UInt8) (pos : Nat) (order : List Nat) (acc : Array Nat) :
    readClens data 0 pos order acc = some (pos, acc) := by
  cases order <;> rfl

theorem readClens_nil (data : Array UInt8) (n pos : Nat) (acc : Array Nat) : readClens data n pos [] acc = some (pos, acc) := by
  cases n <;> rfl

theorem readClens_cons (data : Array UInt8) (n pos o : Nat) (os : List Nat) (acc : Array Nat) :
    readClens data (n + 1) pos (o :: os) acc =
      match bitsAt data pos 3 with
      | none => none
      | some v => readClens data n (pos + 3) os (acc.setIfInBounds o v) :=
  rfl

def Verdict.map {α β : Type} (f : α → β) : Verdict α → Verdict β
  | .accept a => .accept (f a)
  | .reject w => .reject w
  | .truncated p => .truncated p
  | .fuel => .fuel

theorem Verdict.map_accept {α β : Type} {f : α → β} {v : Verdict α} {b : β} (h : v.map f = .accept b) :
    ∃ a, v = .accept a ∧ f a = b := by
  cases v with
  | accept a => exact ⟨a, rfl, Verdict.accept.inj h⟩
  | reject w => nomatch h
  | truncated p => nomatch h
  | fuel => nomatch h

/-- The verdict on a block of which a part was read with a verdict `v` other than acceptance; `o` is the output so far. -/
def Verdict.stop {α β : Type} (o : Array UInt8) : Verdict α → Verdict β
  | .reject w => .reject w
  | .fuel => .fuel
  | _ => .truncated o

theorem Verdict.stop_ne_accept {α β : Type} {v : Verdict α} {o : Array UInt8} {R : β} (hna : ∀ R, v ≠ .accept R) :
    v.stop o ≠ .accept R := by
  cases v with
  | accept R' => exact absurd rfl (hna R')
  | reject w => nofun
  | truncated q => nofun
  | fuel => nofun

def Decided {α : Type} (F : Prop) (ok : α → Prop) : Verdict α → Prop
  | .accept R => ok R
  | .fuel => False
  | _ => F

theorem Decided.mono {α : Type} {F : Prop} {ok ok' : α → Prop} {v : Verdict α} (h : Decided F ok v)
    (hm : ∀ R, ok R → ok' R) : Decided F ok' v := by
  cases v with
  | accept R => exact hm R h
  | reject w => exact h
  | truncated p => exact h
  | fuel => exact h

theorem Decided.map {α β : Type} {F : Prop} {ok : β → Prop} {f : α → β} {v : Verdict α} :
    Decided F ok (v.map f) ↔ Decided F (fun a => ok (f a)) v := by
  cases v <;> exact Iff.rfl

/-- the record of a block as `inflateBlock` sets it up from the three header bits `hdr` read at bit `pos` -/
def blankInfo (hdr pos : Nat) (o : Array UInt8) : BlockInfo :=
  { final := hdr % 2 = 1, btype := hdr / 2, bitStart := pos, bitEnd := 0, outStart := o.size, outEnd := 0,
    litLens := #[], distLens := #[], clenLens := #[], tokens := #[] }

section inflateBlock
variable {pre : Array UInt8} {maxDist : Nat} {data : Array UInt8} {fuel pos : Nat} {o : Array UInt8} {hdr : Nat}

theorem inflateBlock_short (hv : bitsAt data pos 3 = none) : inflateBlock pre maxDist data fuel pos o = .truncated o := by
  unfold inflateBlock; rw [hv]

theorem inflateBlock_cases {motive : Verdict (Nat × Array UInt8 × BlockInfo) → Prop} (hv : bitsAt data pos 3 = some hdr)
    (storedShort : hdr / 2 = 0 →
      bitsAt data (8 * ((pos + 3 + 7) / 8)) 16 = none ∨ bitsAt data (8 * ((pos + 3 + 7) / 8) + 16) 16 = none →
      motive (.truncated o))
    (storedLen : ∀ len nlen, hdr / 2 = 0 → bitsAt data (8 * ((pos + 3 + 7) / 8)) 16 = some len →
      bitsAt data (8 * ((pos + 3 + 7) / 8) + 16) 16 = some nlen → len + nlen ≠ 65535 → motive (.reject .storedLen))
    (storedCut : ∀ len nlen, hdr / 2 = 0 → bitsAt data (8 * ((pos + 3 + 7) / 8)) 16 = some len →
      bitsAt data (8 * ((pos + 3 + 7) / 8) + 16) 16 = some nlen → len + nlen = 65535 →
      copyStored data ((pos + 3 + 7) / 8 + 4) o len = none →
      motive (.truncated (copyStoredPartial data ((pos + 3 + 7) / 8 + 4) o len)))
    (stored : ∀ len nlen o', hdr / 2 = 0 → bitsAt data (8 * ((pos + 3 + 7) / 8)) 16 = some len →
      bitsAt data (8 * ((pos + 3 + 7) / 8) + 16) 16 = some nlen → len + nlen = 65535 →
      copyStored data ((pos + 3 + 7) / 8 + 4) o len = some o' →
      motive (.accept (8 * ((pos + 3 + 7) / 8 + 4 + len), o', blankInfo hdr pos o)))
    (fixed : hdr / 2 = 1 →
      motive ((decodeTokens pre maxDist fixedLitCode fixedDistCode data fuel (pos + 3) o #[]).map fun R =>
        (R.1, R.2.1, { blankInfo hdr pos o with litLens := fixedLitLens, distLens := fixedDistLens, tokens := R.2.2 })))
    (sizesShort : hdr / 2 = 2 →
      bitsAt data (pos + 3) 5 = none ∨ bitsAt data (pos + 3 + 5) 5 = none ∨ bitsAt data (pos + 3 + 10) 4 = none →
      motive (.truncated o))
    (sizesBad : ∀ hlit hdist hclen, hdr / 2 = 2 → bitsAt data (pos + 3) 5 = some hlit →
      bitsAt data (pos + 3 + 5) 5 = some hdist → bitsAt data (pos + 3 + 10) 4 = some hclen →
      hlit + 257 > 286 ∨ hdist + 1 > 30 → motive (.reject .tableSizes))
    (clensShort : ∀ hlit hdist hclen, hdr / 2 = 2 → bitsAt data (pos + 3) 5 = some hlit →
      bitsAt data (pos + 3 + 5) 5 = some hdist → bitsAt data (pos + 3 + 10) 4 = some hclen →
      ¬ (hlit + 257 > 286 ∨ hdist + 1 > 30) →
      readClens data (hclen + 4) (pos + 3 + 14) clenOrder (Array.replicate 19 0) = none → motive (.truncated o))
    (clensBad : ∀ hlit hdist hclen p1 clens, hdr / 2 = 2 → bitsAt data (pos + 3) 5 = some hlit →
      bitsAt data (pos + 3 + 5) 5 = some hdist → bitsAt data (pos + 3 + 10) 4 = some hclen →
      ¬ (hlit + 257 > 286 ∨ hdist + 1 > 30) →
      readClens data (hclen + 4) (pos + 3 + 14) clenOrder (Array.replicate 19 0) = some (p1, clens) →
      codeValid .clen clens = false → motive (.reject .clenCode))
    (lensStop : ∀ hlit hdist hclen p1 clens, hdr / 2 = 2 → bitsAt data (pos + 3) 5 = some hlit →
      bitsAt data (pos + 3 + 5) 5 = some hdist → bitsAt data (pos + 3 + 10) 4 = some hclen →
      ¬ (hlit + 257 > 286 ∨ hdist + 1 > 30) →
      readClens data (hclen + 4) (pos + 3 + 14) clenOrder (Array.replicate 19 0) = some (p1, clens) →
      codeValid .clen clens = true →
      (∀ R, readLens (mkCode clens) data (hlit + 257 + (hdist + 1)) fuel p1 #[] ≠ .accept R) →
      motive ((readLens (mkCode clens) data (hlit + 257 + (hdist + 1)) fuel p1 #[]).stop o))
    (codesBad : ∀ hlit hdist hclen p1 clens p2 lens, hdr / 2 = 2 → bitsAt data (pos + 3) 5 = some hlit →
      bitsAt data (pos + 3 + 5) 5 = some hdist → bitsAt data (pos + 3 + 10) 4 = some hclen →
      ¬ (hlit + 257 > 286 ∨ hdist + 1 > 30) →
      readClens data (hclen + 4) (pos + 3 + 14) clenOrder (Array.replicate 19 0) = some (p1, clens) →
      codeValid .clen clens = true →
      readLens (mkCode clens) data (hlit + 257 + (hdist + 1)) fuel p1 #[] = .accept (p2, lens) →
      codeValid .litlen (lens.extract 0 (hlit + 257)) = false ∨
        codeValid .dist (lens.extract (hlit + 257) (hlit + 257 + (hdist + 1))) = false →
      motive (.reject (if codeValid .litlen (lens.extract 0 (hlit + 257)) = false then .litlenCode else .distCode)))
    (dynamic : ∀ hlit hdist hclen p1 clens p2 lens, hdr / 2 = 2 → bitsAt data (pos + 3) 5 = some hlit →
      bitsAt data (pos + 3 + 5) 5 = some hdist → bitsAt data (pos + 3 + 10) 4 = some hclen →
      ¬ (hlit + 257 > 286 ∨ hdist + 1 > 30) →
      readClens data (hclen + 4) (pos + 3 + 14) clenOrder (Array.replicate 19 0) = some (p1, clens) →
      codeValid .clen clens = true →
      readLens (mkCode clens) data (hlit + 257 + (hdist + 1)) fuel p1 #[] = .accept (p2, lens) →
      codeValid .litlen (lens.extract 0 (hlit + 257)) = true →
      codeValid .dist (lens.extract (hlit + 257) (hlit + 257 + (hdist + 1))) = true →
      motive ((decodeTokens pre maxDist (mkCode (lens.extract 0 (hlit + 257)))
          (mkCode (lens.extract (hlit + 257) (hlit + 257 + (hdist + 1)))) data fuel p2 o #[]).map fun R =>
        (R.1, R.2.1,
          { blankInfo hdr pos o with
            litLens := lens.extract 0 (hlit + 257)
            distLens := lens.extract (hlit + 257) (hlit + 257 + (hdist + 1))
            clenLens := clens
            tokens := R.2.2 })))
    (badType : 3 ≤ hdr / 2 → motive (.reject .blockType)) :
    motive (inflateBlock pre maxDist data fuel pos o) := by
  unfold inflateBlock
  rw [hv]
  dsimp only
  by_cases hb0 : hdr / 2 = 0
  · rw [if_pos hb0]
    cases hl : bitsAt data (8 * ((pos + 3 + 7) / 8)) 16 with
    | none => exact storedShort hb0 (.inl hl)
    | some len =>
      cases hn : bitsAt data (8 * ((pos + 3 + 7) / 8) + 16) 16 with
      | none => exact storedShort hb0 (.inr hn)
      | some nlen =>
        dsimp only
        by_cases hne : len + nlen ≠ 65535
        · rw [if_pos hne]; exact storedLen len nlen hb0 hl hn hne
        · rw [if_neg hne]
          cases hcp : copyStored data ((pos + 3 + 7) / 8 + 4) o len with
          | none => exact storedCut len nlen hb0 hl hn (Decidable.not_not.mp hne) hcp
          | some o' => exact stored len nlen o' hb0 hl hn (Decidable.not_not.mp hne) hcp
  · rw [if_neg hb0]
    by_cases hb1 : hdr / 2 = 1
    · rw [if_pos hb1]
      have := fixed hb1
      generalize decodeTokens pre maxDist fixedLitCode fixedDistCode data fuel (pos + 3) o #[] = v at this ⊢
      cases v <;> exact this
    · rw [if_neg hb1]
      by_cases hb2 : hdr / 2 = 2
      · rw [if_pos hb2]
        cases h1 : bitsAt data (pos + 3) 5 with
        | none => exact sizesShort hb2 (.inl h1)
        | some hlit =>
          cases h2 : bitsAt data (pos + 3 + 5) 5 with
          | none => exact sizesShort hb2 (.inr (.inl h2))
          | some hdist =>
            cases h3 : bitsAt data (pos + 3 + 10) 4 with
            | none => exact sizesShort hb2 (.inr (.inr h3))
            | some hclen =>
              dsimp only
              by_cases hbig : hlit + 257 > 286 ∨ hdist + 1 > 30
              · rw [if_pos (by simpa using hbig)]; exact sizesBad hlit hdist hclen hb2 h1 h2 h3 hbig
              · rw [if_neg (by simpa using hbig)]
                cases hcl : readClens data (hclen + 4) (pos + 3 + 14) clenOrder (Array.replicate 19 0) with
                | none => exact clensShort hlit hdist hclen hb2 h1 h2 h3 hbig hcl
                | some pc =>
                  obtain ⟨p1, clens⟩ := pc
                  dsimp only
                  cases hclv : codeValid .clen clens with
                  | false => exact clensBad hlit hdist hclen p1 clens hb2 h1 h2 h3 hbig hcl hclv
                  | true =>
                    rw [if_neg (by decide)]
                    have stop := lensStop hlit hdist hclen p1 clens hb2 h1 h2 h3 hbig hcl hclv
                    cases hlens : readLens (mkCode clens) data (hlit + 257 + (hdist + 1)) fuel p1 #[] with
                    | accept R =>
                      obtain ⟨p2, lens⟩ := R
                      dsimp only
                      cases hvl : codeValid .litlen (lens.extract 0 (hlit + 257)) with
                      | false =>
                        have := codesBad hlit hdist hclen p1 clens p2 lens hb2 h1 h2 h3 hbig hcl hclv hlens (.inl hvl)
                        rw [hvl, if_pos rfl] at this
                        exact this
                      | true =>
                        rw [if_neg (by decide)]
                        cases hvd : codeValid .dist (lens.extract (hlit + 257) (hlit + 257 + (hdist + 1))) with
                        | false =>
                          have := codesBad hlit hdist hclen p1 clens p2 lens hb2 h1 h2 h3 hbig hcl hclv hlens (.inr hvd)
                          rw [hvl, if_neg (by decide)] at this
                          exact this
                        | true =>
                          rw [if_neg (by decide)]
                          have := dynamic hlit hdist hclen p1 clens p2 lens hb2 h1 h2 h3 hbig hcl hclv hlens hvl hvd
                          generalize decodeTokens pre maxDist (mkCode (lens.extract 0 (hlit + 257)))
                            (mkCode (lens.extract (hlit + 257) (hlit + 257 + (hdist + 1)))) data fuel p2 o #[] = v at this ⊢
                          cases v <;> exact this
                    | reject w => rw [hlens] at stop; exact stop nofun
                    | truncated q => rw [hlens] at stop; exact stop nofun
                    | fuel => rw [hlens] at stop; exact stop nofun
      · rw [if_neg hb2]; exact badType (by omega)

end inflateBlock

/-- One round of `inflateBlocks`. Rewriting a CLOSED call with this equation costs an instantiation;
    `unfold` / `rw [inflateBlocks]` make the kernel evaluate both sides of the unfolding. -/
theorem inflateBlocks_succ (pre : Array UInt8) (maxDist : Nat) (data : Array UInt8) (fuel pos : Nat)
    (out : Array UInt8) (blocks : Array BlockInfo) :
    inflateBlocks pre maxDist data (fuel + 1) pos out blocks =
    match inflateBlock pre maxDist data fuel pos out with
    | .accept (pos', out', info) =>
      let blocks := blocks.push { info with bitEnd := pos', outEnd := out'.size }
      if info.final then .accept (pos', out', blocks) else inflateBlocks pre maxDist data fuel pos' out' blocks
    | .reject w => .reject w
    | .truncated p => .truncated p
    | .fuel => .fuel := rfl

end Spec
