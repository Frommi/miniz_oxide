/-
The more-input flag between calls. `TINFL_FLAG_HAS_MORE_INPUT` is read in exactly one place: when
the input runs dry, it chooses between "needs more input" and "cannot make progress". Two calls that
differ only in that flag therefore run through the same transitions, and end the same way unless the
input ran dry. This is what lets a driver drop the flag on its last call (as `inflate()` does on
`Finish`) without changing anything for a stream that is complete.
No property statements here (see Props/C07).
-/
import MinizProof.Lemmas.CoreSession
import MinizProof.Lemmas.CoreRing
namespace Model.Core
open Spec

/-- Two flag words that agree on everything the automaton and the epilogue read, except possibly
    the more-input flag. -/
structure FlagsBut (fl fl' : Nat) : Prop where
  zlib : hasFlag fl' fParseZlib = hasFlag fl fParseZlib
  flat : hasFlag fl' fNonWrapping = hasFlag fl fNonWrapping
  comp : hasFlag fl' fComputeAdler = hasFlag fl fComputeAdler
  ign  : hasFlag fl' fIgnoreAdler = hasFlag fl fIgnoreAdler
  stop : hasFlag fl' fStopOnBlockBoundary = hasFlag fl fStopOnBlockBoundary

theorem FlagsBut.symm {fl fl' : Nat} (h : FlagsBut fl fl') : FlagsBut fl' fl :=
  ⟨h.zlib.symm, h.flat.symm, h.comp.symm, h.ign.symm, h.stop.symm⟩

@[reducible] def Env.withFlags (e : Env) (fl : Nat) : Env := { e with flags := fl }

def Step.mapE (s' : Int) : Step → Step
  | .cont c o => .cont c o
  | .fin st c o => .fin (if isEoi st then s' else st) c o

@[simp] theorem mapE_cont (s' : Int) (c : Ctx) (o : Array UInt8) : (Step.cont c o).mapE s' = .cont c o := rfl
theorem mapE_eoi (e : Env) (s' : Int) (c : Ctx) (o : Array UInt8) : (Step.fin e.eoi c o).mapE s' = .fin s' c o := by
  show Step.fin (if isEoi (endOfInput e.flags) then s' else _) c o = _
  rw [eoi_isEoi]; rfl
@[simp] theorem mapE_more (s' : Int) (c : Ctx) (o : Array UInt8) : (Step.fin stHasMoreOutput c o).mapE s' = .fin stHasMoreOutput c o := rfl
@[simp] theorem mapE_failed (s' : Int) (c : Ctx) (o : Array UInt8) : (Step.fin stFailed c o).mapE s' = .fin stFailed c o := rfl
@[simp] theorem mapE_done (s' : Int) (c : Ctx) (o : Array UInt8) : (Step.fin stDone c o).mapE s' = .fin stDone c o := rfl
@[simp] theorem mapE_bb (s' : Int) (c : Ctx) (o : Array UInt8) : (Step.fin stBlockBoundary c o).mapE s' = .fin stBlockBoundary c o := rfl

/-- on a transition that leaves cursor and buffer alone, placing it where it stands only re-labels
    a starved exit -/
theorem place_eq_mapE {S : Step} {q : Nat} {o : Array UInt8} {s : Int} (hfix : S = S.place q o s) (s' : Int) :
    S.place q o s' = S.mapE s' := by
  cases S with
  | cont c' o' =>
    injection hfix with hc ho
    show Step.cont (c'.setOut q) o = Step.cont c' o'
    rw [← hc, ← ho]
  | fin st c' o' =>
    injection hfix with _ hc ho
    show Step.fin _ (c'.setOut q) o = Step.fin _ c' o'
    rw [← hc, ← ho]

variable {e : Env} {fl' : Nat} {c : Ctx} {out : Array UInt8}

section states
variable (h : FlagsBut e.flags fl')
include h

theorem FlagsBut.ring : (e.withFlags fl').ring = e.ring := by
  show (!hasFlag fl' fNonWrapping) = !hasFlag e.flags fNonWrapping
  rw [h.flat]

theorem FlagsBut.alike (q : Nat) : Alike e (e.withFlags fl') q q :=
  ⟨rfl, h.zlib, h.stop, rfl, fun _ _ => by rw [h.ring]⟩

theorem step_flag : step (e.withFlags fl') c out = (step e c out).mapE (endOfInput fl') := by
  by_cases hw : Writes c.r.state
  · -- the writing states stop only for lack of room, except `RawMemcpy2`, which may starve
    rcases hw with hs | hs | hs | hs
    · rw [step_WriteSymbol hs, step_WriteSymbol (e := e) hs]; exact map_ite _ (hB := map_ite _)
    · rw [step_RawStoreFirstByte hs, step_RawStoreFirstByte (e := e) hs]; exact map_ite _ (hB := map_ite _)
    · rw [step_RawMemcpy2 hs, step_RawMemcpy2 (e := e) hs]; exact map_ite _ (hB := (mapE_eoi e _ c out).symm)
    · rw [hs.elim step_Match1 step_Match2, hs.elim (step_Match1 (e := e)) (step_Match2 (e := e))]
      unfold stMatch
      rw [h.ring]
      exact map_ite _ (hB := map_ite _ (hB := map_ite _ (hB := map_ite _)))
  · show stepAt c.r.state (e.withFlags fl') (c.setOut c.outPos) out = _
    rw [stepAt_quiet (o := out) (h.alike c.outPos) _ hw]
    exact place_eq_mapE (stepAt_keeps hw) _

theorem run_flag : ∀ (fuel : Nat) (c : Ctx) (out : Array UInt8),
    run (e.withFlags fl') fuel c out =
      ((if isEoi (run e fuel c out).1 then endOfInput fl' else (run e fuel c out).1), (run e fuel c out).2) := by
  intro fuel
  induction fuel with
  | zero => intro c out; rfl
  | succ n ih =>
    intro c out
    unfold run
    rw [step_flag h]
    cases hs : step e c out with
    | cont c1 o1 => exact ih c1 o1
    | fin st c1 o1 => rfl

end states
theorem callRun_flag {fl fl' : Nat} (h : FlagsBut fl fl') (r : Regs) (inp out : Array UInt8) (outPos budget : Nat) :
    callRun r inp out outPos budget fl' =
      ((if isEoi (callRun r inp out outPos budget fl).1 then endOfInput fl' else (callRun r inp out outPos budget fl).1),
        (callRun r inp out outPos budget fl).2) :=
  run_flag (e := callEnv inp out outPos budget fl) (fl' := fl') h _ _ _

theorem badGeometry_flag {fl fl' : Nat} (h : FlagsBut fl fl') (n p : Nat) : badGeometry fl' n p = badGeometry fl n p := by
  unfold badGeometry; rw [h.flat]

theorem needAdler_flag {fl fl' : Nat} (h : FlagsBut fl fl') : needAdler fl' = needAdler fl := by
  unfold needAdler; rw [h.ign, h.zlib, h.comp]

theorem epilogue_flag {fl fl' : Nat} (h : FlagsBut fl fl') (p E : Nat) (st : Int) (c : Ctx) (o : Array UInt8) :
    epilogue fl' p E st c o = epilogue fl p E st c o := by
  unfold epilogue
  rw [needAdler_flag h, h.zlib]

theorem epilogue_eoi (fl p E : Nat) (st : Int) (c : Ctx) (o : Array UInt8) (hst : isEoi st = true) :
    ((epilogue fl p E st c o).status = stNeedsMoreInput ∨ (epilogue fl p E st c o).status = stHasMoreOutput ∨
      (epilogue fl p E st c o).status = stFailedCannotMakeProgress) ∧
    ((epilogue fl p E st c o).status = stFailedCannotMakeProgress ↔ st = stFailedCannotMakeProgress) ∧
    (epilogue fl p E st c o).out = o ∧ (epilogue fl p E st c o).consumed = c.inPos ∧
    (epilogue fl p E st c o).written = c.outPos - p := by
  have hu : exitUndo st c = 0 := by
    unfold exitUndo
    unfold isEoi at hst
    rw [if_pos hst]
  have h3 : exitStatus st c E = stNeedsMoreInput ∨ exitStatus st c E = stHasMoreOutput ∨
      exitStatus st c E = stFailedCannotMakeProgress := by
    unfold exitStatus
    split
    · exact .inr (.inl rfl)
    · unfold isEoi at hst
      simp only [Bool.or_eq_true, beq_iff_eq] at hst
      rcases hst with h | h
      · exact .inl h
      · exact .inr (.inr h)
  have h4 : exitStatus st c E = stFailedCannotMakeProgress ↔ st = stFailedCannotMakeProgress := by
    unfold exitStatus
    split
    · rename_i hc
      simp only [Bool.and_eq_true, beq_iff_eq] at hc
      rw [hc.1.1]; decide
    · exact Iff.rfl
  have hnd : (exitStatus st c E == stDone) = false := by
    rcases h3 with h | h | h <;> rw [h] <;> decide
  unfold epilogue
  dsimp only
  split
  · simp only [hnd, Bool.false_and, Bool.false_eq_true, if_false, hu, Nat.sub_zero]
    exact ⟨h3, h4, by trivial, by trivial, by trivial⟩
  · simp only [hu, Nat.sub_zero]
    exact ⟨h3, h4, by trivial, by trivial, by trivial⟩

/-- One call under the two flag words: the same call, unless the run starved; then both epilogues
    start from the same context and buffer with a starved status each. -/
theorem decompress_flag {fl fl' : Nat} (h : FlagsBut fl fl') (r : Regs) (inp out : Array UInt8) (outPos budget : Nat) :
    decompress r inp out outPos budget fl' = decompress r inp out outPos budget fl ∨
    ∃ st c o, isEoi st = true ∧
      decompress r inp out outPos budget fl = epilogue fl outPos (min (outPos + budget) out.size) st c o ∧
      decompress r inp out outPos budget fl' = epilogue fl' outPos (min (outPos + budget) out.size) (endOfInput fl') c o := by
  cases hg : badGeometry fl out.size outPos with
  | true => exact .inl (by rw [decompress_bad _ _ _ _ _ _ hg, decompress_bad _ _ _ _ _ _ ((badGeometry_flag h _ _).trans hg)])
  | false =>
    rw [decompress_eq _ _ _ _ _ _ hg, decompress_eq _ _ _ _ _ _ ((badGeometry_flag h _ _).trans hg), callRun_flag h]
    generalize callRun r inp out outPos budget fl = R
    obtain ⟨st, c, o⟩ := R
    by_cases he : isEoi st = true
    · exact .inr ⟨st, c, o, he, rfl, by rw [if_pos he]⟩
    · exact .inl (by rw [if_neg he]; exact epilogue_flag h _ _ _ _ _)

/-- THE MORE-INPUT FLAG IS ONLY READ WHEN THE INPUT RUNS DRY. If a call under `fl` ends in any
    status other than the three a starved exit can be reported as, the call under `fl'` is the same
    call: status, counts, buffer and saved registers. -/
theorem decompress_flag_same {fl fl' : Nat} (h : FlagsBut fl fl') (r : Regs) (inp out : Array UInt8) (outPos budget : Nat)
    (h1 : (decompress r inp out outPos budget fl).status ≠ stNeedsMoreInput)
    (h2 : (decompress r inp out outPos budget fl).status ≠ stHasMoreOutput)
    (h3 : (decompress r inp out outPos budget fl).status ≠ stFailedCannotMakeProgress) :
    decompress r inp out outPos budget fl' = decompress r inp out outPos budget fl := by
  rcases decompress_flag h r inp out outPos budget with heq | ⟨st, c, o, he, hfl, _⟩
  · exact heq
  · rw [hfl] at h1 h2 h3
    rcases (epilogue_eoi fl outPos _ st c o he).1 with h0 | h0 | h0
    · exact absurd h0 h1
    · exact absurd h0 h2
    · exact absurd h0 h3

theorem decompress_drop_more {fl fl' : Nat} (h : FlagsBut fl fl') (hno : hasFlag fl' fHasMoreInput = false)
    (r : Regs) (inp out : Array UInt8) (outPos budget : Nat)
    (hs : (decompress r inp out outPos budget fl').status ≠ stFailedCannotMakeProgress) :
    decompress r inp out outPos budget fl = decompress r inp out outPos budget fl' := by
  rcases decompress_flag h r inp out outPos budget with heq | ⟨st, c, o, _, _, hfl'⟩
  · exact heq.symm
  · have he' : endOfInput fl' = stFailedCannotMakeProgress := by unfold endOfInput; rw [hno]; rfl
    rw [hfl', he'] at hs
    exact absurd ((epilogue_eoi fl' outPos _ stFailedCannotMakeProgress c o rfl).2.1.mpr rfl) hs

theorem decompress_starved {fl fl' : Nat} (h : FlagsBut fl fl')
    (r : Regs) (inp out : Array UInt8) (outPos budget : Nat)
    (hs : (decompress r inp out outPos budget fl').status = stFailedCannotMakeProgress) :
    ((decompress r inp out outPos budget fl).status = stNeedsMoreInput ∨
      (decompress r inp out outPos budget fl).status = stHasMoreOutput ∨
      (decompress r inp out outPos budget fl).status = stFailedCannotMakeProgress) ∧
    (decompress r inp out outPos budget fl).out = (decompress r inp out outPos budget fl').out ∧
    (decompress r inp out outPos budget fl).consumed = (decompress r inp out outPos budget fl').consumed ∧
    (decompress r inp out outPos budget fl).written = (decompress r inp out outPos budget fl').written := by
  rcases decompress_flag h r inp out outPos budget with heq | ⟨st, c, o, he, hfl, hfl'⟩
  · rw [heq] at hs
    rw [heq]
    exact ⟨.inr (.inr hs), rfl, rfl, rfl⟩
  · rw [hfl, hfl']
    obtain ⟨a1, _, a3, a4, a5⟩ := epilogue_eoi fl outPos (min (outPos + budget) out.size) st c o he
    obtain ⟨_, _, b3, b4, b5⟩ := epilogue_eoi fl' outPos (min (outPos + budget) out.size) _ c o (eoi_isEoi fl')
    exact ⟨a1, by rw [a3, b3], by rw [a4, b4], by rw [a5, b5]⟩

/-- `runCalls` with the last call made under `fl'` (as `inflate()` does for `Finish`: every call but
    the last announces more input). -/
def runCallsFin (fl fl' pos0 : Nat) : Regs → Array UInt8 → Nat → Array UInt8 → List (Array UInt8 × Nat) → List Res
  | _, _, _, _, [] => []
  | r, out, pos, carry, [(chunk, g)] => [decompress r (carry ++ chunk) out pos (pos0 + g - pos) fl']
  | r, out, pos, carry, (chunk, g) :: c2 :: rest =>
    let res := decompress r (carry ++ chunk) out pos (pos0 + g - pos) fl
    res :: runCallsFin fl fl' pos0 res.r res.out (pos + res.written)
      ((carry ++ chunk).extract res.consumed (carry ++ chunk).size) (c2 :: rest)

theorem runCallsFin_ne_nil (fl fl' pos0 : Nat) (r : Regs) (out : Array UInt8) (pos : Nat) (carry : Array UInt8)
    (c : Array UInt8 × Nat) (rest : List (Array UInt8 × Nat)) :
    runCallsFin fl fl' pos0 r out pos carry (c :: rest) ≠ [] := by
  obtain ⟨chunk, g⟩ := c
  cases rest <;> (rw [runCallsFin]; exact List.cons_ne_nil _ _)

theorem runCalls_ne_nil (fl pos0 : Nat) (r : Regs) (out : Array UInt8) (pos : Nat) (carry : Array UInt8)
    (c : Array UInt8 × Nat) (rest : List (Array UInt8 × Nat)) :
    runCalls fl pos0 r out pos carry (c :: rest) ≠ [] := by
  rw [runCalls]; exact List.cons_ne_nil _ _

theorem getLast?_cons_of_ne_nil {α : Type} (a : α) {l : List α} (h : l ≠ []) : (a :: l).getLast? = l.getLast? := by
  obtain ⟨x, xs, rfl⟩ := List.exists_cons_of_ne_nil h
  exact List.getLast?_cons_cons

theorem runCallsFin_dropLast (fl fl' pos0 : Nat) : ∀ (calls : List (Array UInt8 × Nat)) (r : Regs) (out : Array UInt8)
    (pos : Nat) (carry : Array UInt8),
    (runCallsFin fl fl' pos0 r out pos carry calls).dropLast = (runCalls fl pos0 r out pos carry calls).dropLast := by
  intro calls
  induction calls with
  | nil => intro r out pos carry; rfl
  | cons c rest ih =>
    intro r out pos carry
    obtain ⟨chunk, g⟩ := c
    cases rest with
    | nil => rw [runCallsFin, runCalls, runCalls, List.dropLast_singleton, List.dropLast_singleton]
    | cons c2 rest =>
      rw [runCallsFin, runCalls, List.dropLast_cons_of_ne_nil (runCallsFin_ne_nil _ _ _ _ _ _ _ _ _),
        List.dropLast_cons_of_ne_nil (runCalls_ne_nil _ _ _ _ _ _ _ _), ih]

/-- If the last call of the all-`fl` driver ends in a status no starved exit is reported as, the
    driver that drops the flag on its last call makes exactly the same calls with the same results. -/
theorem runCallsFin_eq {fl fl' : Nat} (h : FlagsBut fl fl') (pos0 : Nat) : ∀ (calls : List (Array UInt8 × Nat)) (r : Regs)
    (out : Array UInt8) (pos : Nat) (carry : Array UInt8) (last : Res)
    (_ : (runCalls fl pos0 r out pos carry calls).getLast? = some last)
    (_ : last.status ≠ stNeedsMoreInput) (_ : last.status ≠ stHasMoreOutput)
    (_ : last.status ≠ stFailedCannotMakeProgress),
    runCallsFin fl fl' pos0 r out pos carry calls = runCalls fl pos0 r out pos carry calls := by
  intro calls
  induction calls with
  | nil => intro r out pos carry last _ _ _ _; rfl
  | cons c rest ih =>
    intro r out pos carry last hl h1 h2 h3
    obtain ⟨chunk, g⟩ := c
    cases rest with
    | nil =>
      rw [runCalls, runCalls, List.getLast?_singleton] at hl
      rw [runCallsFin, runCalls, runCalls]
      obtain rfl := Option.some.inj hl
      rw [decompress_flag_same h _ _ _ _ _ h1 h2 h3]
    | cons c2 rest =>
      rw [runCalls, getLast?_cons_of_ne_nil _ (runCalls_ne_nil _ _ _ _ _ _ _ _)] at hl
      rw [runCallsFin, runCalls, ih _ _ _ _ last hl h1 h2 h3]

end Model.Core
