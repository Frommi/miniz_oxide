/-
Re-basing the decoder model's automaton: the run of one call over the chunk `inp` from input
cursor `p` is the run over `a ++ inp` from cursor `a.size + p`, and neither depends on the running
checksum register (which only the epilogue of a call and the `Start` state write). This is the
glue between two calls of `decompress`: the second call restarts its cursor at 0 on the next chunk
and carries a checksum register the first call's epilogue has updated.
No property statements here (see Props/C07).
-/
import MinizProof.Lemmas.CoreReach
namespace Model.Core
open Spec

-- sealed while shape lemmas are matched against state functions (see `Lemmas/CoreBasic`)
attribute [local irreducible] readBits decodeHuff Array.instGetElem?NatLtSize

@[reducible] def T (k x : Nat) (c : Ctx) : Ctx := { c with inPos := k + c.inPos, r := { c.r with checkAdler32 := x } }

def Step.mapT (k x : Nat) : Step → Step
  | .cont c o => .cont (T k x c) o
  | .fin st c o => .fin st (T k x c) o

@[reducible] def Env.pre (e : Env) (a : Array UInt8) : Env := { e with inp := a ++ e.inp }

@[simp] theorem Env.pre_flags (e : Env) (a : Array UInt8) : (e.pre a).flags = e.flags := rfl
@[simp] theorem Env.pre_outLen (e : Env) (a : Array UInt8) : (e.pre a).outLen = e.outLen := rfl
@[simp] theorem Env.pre_outEnd (e : Env) (a : Array UInt8) : (e.pre a).outEnd = e.outEnd := rfl
@[simp] theorem Env.pre_inp (e : Env) (a : Array UInt8) : (e.pre a).inp = a ++ e.inp := rfl
@[simp] theorem Env.pre_ring (e : Env) (a : Array UInt8) : (e.pre a).ring = e.ring := rfl
@[simp] theorem Env.pre_eoi (e : Env) (a : Array UInt8) : (e.pre a).eoi = e.eoi := rfl

theorem pre_get (a inp : Array UInt8) (p : Nat) : (a ++ inp)[a.size + p]? = inp[p]? := by
  rw [Array.getElem?_append_right (by omega)]
  congr 1; omega

theorem pre_getD (a inp : Array UInt8) (p : Nat) (d : UInt8) : (a ++ inp).getD (a.size + p) d = inp.getD p d := by
  simp only [Array.getD_eq_getD_getElem?, pre_get]

theorem pullBits_T (a inp : Array UInt8) (dec : Nat → Nat → Option (Nat × Nat)) (x : Nat) (c : Ctx) :
    pullBits (a ++ inp) dec (T a.size x c) = (T a.size x (pullBits inp dec c).1, (pullBits inp dec c).2) := by
  have : (a ++ inp).size - (T a.size x c).inPos + 1 = inp.size - c.inPos + 1 := by
    show (a ++ inp).size - (a.size + c.inPos) + 1 = _
    rw [Array.size_append]; omega
  unfold pullBits
  rw [this]
  exact pullAux_map (T a.size x) (fun _ => rfl) (fun _ => rfl) (fun c => pre_get a inp c.inPos) (fun _ _ => rfl)
    (fun _ _ => rfl) _ c

theorem readBits_T (a inp : Array UInt8) (amount x : Nat) (c : Ctx) :
    readBits (a ++ inp) amount (T a.size x c) = (T a.size x (readBits inp amount c).1, (readBits inp amount c).2) := by
  rw [readBits_eq, readBits_eq]; exact pullBits_T a inp _ x c

theorem decodeHuff_T (a inp : Array UInt8) (code : Code) (x : Nat) (c : Ctx) :
    decodeHuff (a ++ inp) code (T a.size x c) = (T a.size x (decodeHuff inp code c).1, (decodeHuff inp code c).2) := by
  rw [decodeHuff_eq, decodeHuff_eq]; exact pullBits_T a inp _ x c

theorem copyIn_T (a inp : Array UInt8) (n : Nat) : ∀ (out : Array UInt8) (p q : Nat),
    copyIn (a ++ inp) out p (a.size + q) n = copyIn inp out p q n := by
  induction n with
  | zero => intro out p q; rfl
  | succ n ih =>
    intro out p q
    unfold copyIn
    rw [pre_getD]
    exact ih _ (p + 1) (q + 1)

@[simp] theorem T_inPos (k x : Nat) (c : Ctx) : (T k x c).inPos = k + c.inPos := rfl
@[simp] theorem T_outPos (k x : Nat) (c : Ctx) : (T k x c).outPos = c.outPos := rfl
@[simp] theorem T_state (k x : Nat) (c : Ctx) : (T k x c).r.state = c.r.state := rfl
@[simp] theorem T_numBits (k x : Nat) (c : Ctx) : (T k x c).r.numBits = c.r.numBits := rfl
@[simp] theorem T_bitBuf (k x : Nat) (c : Ctx) : (T k x c).r.bitBuf = c.r.bitBuf := rfl
@[simp] theorem T_counter (k x : Nat) (c : Ctx) : (T k x c).r.counter = c.r.counter := rfl
@[simp] theorem T_dist (k x : Nat) (c : Ctx) : (T k x c).r.dist = c.r.dist := rfl
@[simp] theorem T_numExtra (k x : Nat) (c : Ctx) : (T k x c).r.numExtra = c.r.numExtra := rfl
@[simp] theorem T_finish (k x : Nat) (c : Ctx) : (T k x c).r.finish = c.r.finish := rfl
@[simp] theorem T_blockType (k x : Nat) (c : Ctx) : (T k x c).r.blockType = c.r.blockType := rfl
@[simp] theorem T_zHeader0 (k x : Nat) (c : Ctx) : (T k x c).r.zHeader0 = c.r.zHeader0 := rfl
@[simp] theorem T_zHeader1 (k x : Nat) (c : Ctx) : (T k x c).r.zHeader1 = c.r.zHeader1 := rfl
@[simp] theorem T_zAdler32 (k x : Nat) (c : Ctx) : (T k x c).r.zAdler32 = c.r.zAdler32 := rfl
@[simp] theorem T_tableSizes (k x : Nat) (c : Ctx) : (T k x c).r.tableSizes = c.r.tableSizes := rfl
@[simp] theorem T_clenLens (k x : Nat) (c : Ctx) : (T k x c).r.clenLens = c.r.clenLens := rfl
@[simp] theorem T_rawHeader (k x : Nat) (c : Ctx) : (T k x c).r.rawHeader = c.r.rawHeader := rfl
@[simp] theorem T_lenCodes (k x : Nat) (c : Ctx) : (T k x c).r.lenCodes = c.r.lenCodes := rfl
@[simp] theorem T_litCode (k x : Nat) (c : Ctx) : (T k x c).r.litCode = c.r.litCode := rfl
@[simp] theorem T_distCode (k x : Nat) (c : Ctx) : (T k x c).r.distCode = c.r.distCode := rfl
@[simp] theorem T_clenCode (k x : Nat) (c : Ctx) : (T k x c).r.clenCode = c.r.clenCode := rfl
theorem T_setState (k x : Nat) (c : Ctx) (s : Nat) : setState (T k x c) s = T k x (setState c s) := rfl

theorem T_initTree (k x : Nat) (c : Ctx) (l d : Array Nat) : initTree (T k x c) l d = T k x (initTree c l d) := by
  unfold initTree
  simp only [apply_ite (T k x)]
  rfl

variable {e : Env} {a : Array UInt8} {c : Ctx} {out : Array UInt8} {x : Nat}

theorem wrBytesLeft_T (k x : Nat) (c : Ctx) (E : Nat) : wrBytesLeft (T k x c) E = wrBytesLeft c E := rfl

theorem mapT_initTree {c' c0 : Ctx} {k x : Nat} (l d : Array Nat) (o : Array UInt8) (h : c' = T k x c0 := by rfl) :
    Step.cont (initTree c' l d) o = (Step.cont (initTree c0 l d) o).mapT k x := by
  rw [h, T_initTree]; rfl

theorem shift_RawMemcpy2 :
    stRawMemcpy2 (e.pre a) (T a.size x c) out = (stRawMemcpy2 e c out).mapT a.size x := by
  have hsz : (a ++ e.inp).size - (a.size + c.inPos) = e.inp.size - c.inPos := by
    rw [Array.size_append]; omega
  have hlt : a.size + c.inPos < (a ++ e.inp).size ↔ c.inPos < e.inp.size := by
    rw [Array.size_append]; omega
  unfold stRawMemcpy2
  show (if a.size + c.inPos < (a ++ e.inp).size then _ else _) = _
  rw [apply_ite (Step.mapT a.size x)]
  refine ite_congr (propext hlt) (fun _ => ?_) (fun _ => rfl)
  show Step.cont _ (copyIn (a ++ e.inp) out c.outPos (a.size + c.inPos) (min (min _ ((a ++ e.inp).size - (a.size + c.inPos))) _)) = _
  rw [hsz, copyIn_T, Nat.add_assoc]
  rfl

/-- Only place where the position of the cursor inside the chunk matters: the give-back of whole
    bytes at the end of the last block is capped by the cursor. When every whole byte in the bit
    buffer was pulled by this call (`Q`, `Lemmas/CoreBnd`) the cap is not reached in either view. -/
theorem shift_BlockDone (hq : c.r.numBits < 8 * c.inPos + 8) :
    stBlockDone (e.pre a) (T a.size x c) out = (stBlockDone e c out).mapT a.size x := by
  have hm : (c.r.numBits - c.r.numBits % 8) / 8 ≤ c.inPos := by omega
  unfold stBlockDone
  dsimp only
  rw [Nat.min_eq_left hm, Nat.min_eq_left (Nat.le_trans hm (Nat.le_add_left _ _)), Nat.add_sub_assoc hm]
  exact map_ite _ (map_ite _) (map_ite _)

theorem shift_HuffDecodeOuterLoop1 :
    stHuffDecodeOuterLoop1 (e.pre a) (T a.size x c) out = (stHuffDecodeOuterLoop1 e c out).mapT a.size x := by
  unfold stHuffDecodeOuterLoop1
  dsimp only
  -- kept opaque: comparing the two sides must not evaluate `sym - 257` inside `lengthBaseExtra`
  generalize lengthBaseExtra (c.r.counter % 512) = be
  exact map_ite _ (hB := map_ite _)

theorem shift_Match : stMatch (e.pre a) (T a.size x c) out = (stMatch e c out).mapT a.size x :=
  map_ite _ (hB := map_ite _ (hB := map_ite _ (hB := map_ite _)))

/-- Every state but three is an `if`-tree over the three reading shapes
    and plain continuations, in which `T` changes nothing that is looked at. -/
theorem step_shift (hnb : c.r.state = sBlockDone → c.r.numBits < 8 * c.inPos + 8) :
    ∃ x', (c.r.state ≠ sStart → x' = x) ∧ step (e.pre a) (T a.size x c) out = (step e c out).mapT a.size x' := by
  by_cases hStart : c.r.state = sStart
  · exact ⟨1, fun h => absurd hStart h, by rw [step_Start hStart, step_Start (c := T a.size x c) hStart]; rfl⟩
  refine ⟨x, fun _ => rfl, ?_⟩
  revert hStart hnb
  exact stepAt_cases (s := c.r.state)
    (P := fun s f => (s = sBlockDone → c.r.numBits < 8 * c.inPos + 8) → s ≠ sStart →
      f (e.pre a) (T a.size x c) out = (f e c out).mapT a.size x)
    (hStart := fun _ h => absurd rfl h)
    (hZlibCmf := fun _ _ => map_byte (pre_get ..))
    (hZlibFlg := fun _ _ => map_byte (pre_get ..))
    (hBlockHeader := fun _ _ => map_read (readBits_T ..)
      (hk := fun _ _ => map_ite _ (hB := map_ite _ (mapT_initTree ..) (map_ite _))))
    (hNoCompression := fun _ _ => map_read (readBits_T ..))
    (hRawHeader := fun _ _ => map_ite _ (map_ite _ (map_read (readBits_T ..)) (map_byte (pre_get ..)))
      (map_ite _ (hB := map_ite _ (hB := map_ite _))))
    (hRawReadFirstByte := fun _ _ => map_read (readBits_T ..))
    (hRawStoreFirstByte := fun _ _ => map_ite _ (hB := map_ite _))
    (hRawMemcpy1 := fun _ _ => map_ite _ (hB := map_ite _))
    (hRawMemcpy2 := fun _ _ => shift_RawMemcpy2)
    (hTableSizes := fun _ _ => map_ite _ (map_read (readBits_T ..)) (map_ite _))
    (hHufflen := fun _ _ => map_ite _ (map_read (readBits_T ..)) (mapT_initTree ..))
    (hLitlenDist := fun _ _ => map_ite _
      (map_read (decodeHuff_T ..) (hk := fun _ _ => map_ite _ (hB := map_ite _)))
      (map_ite _ (hB := mapT_initTree ..)))
    (hExtraCodeSize := fun _ _ => map_read (readBits_T ..))
    (hDecodeLitlen := fun _ _ => map_read (decodeHuff_T ..))
    (hWriteSymbol := fun _ _ => map_ite _ (hB := map_ite _))
    (hOuterLoop1 := fun _ _ => shift_HuffDecodeOuterLoop1)
    (hExtraLitlen := fun _ _ => map_read (readBits_T ..))
    (hDecodeDistance := fun _ _ => map_read (decodeHuff_T ..) (hk := fun _ _ => map_ite _))
    (hExtraDistance := fun _ _ => map_read (readBits_T ..))
    (hOuterLoop2 := fun _ _ => shift_Match) (hWriteLenBytes := fun _ _ => shift_Match)
    (hBlockDone := fun h _ => shift_BlockDone (h rfl))
    (hAdler32 := fun _ _ => map_ite _ (map_ite _ (map_read (readBits_T ..)) (map_byte (pre_get ..))))
    (hDone := fun _ _ => rfl) (hFailed := fun _ _ _ _ => rfl)

end Model.Core
