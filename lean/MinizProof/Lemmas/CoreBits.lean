/-
The representation invariant between the decoder model's bit buffer and the specification's bit
positions, and the two reading primitives under it:
  * `readBits n` returns exactly `Spec.bitsAt data pos n` and advances the logical position by `n`;
  * `decodeHuff code` returns exactly the symbol `Spec.decodeSym code data pos` decodes and
    advances the logical position to the end of its code.
For the refinement theorems (Props/C03, C06).
-/
import MinizProof.Lemmas.CoreBasic
import MinizProof.Lemmas.ClenShallow
namespace Model.Core
open Spec

def bit (x i : Nat) : Nat := (x >>> i) % 2

theorem bit_eq_testBit (x i : Nat) : bit x i = (x.testBit i).toNat := by
  unfold bit
  rw [Nat.shiftRight_eq_div_pow, Nat.testBit_eq_decide_div_mod_eq]
  have : x / 2 ^ i % 2 < 2 := Nat.mod_lt _ (by decide)
  by_cases h : x / 2 ^ i % 2 = 1
  · simp [h]
  · have : x / 2 ^ i % 2 = 0 := by omega
    simp [this]

theorem bit_shiftRight (x n i : Nat) : bit (x >>> n) i = bit x (n + i) := by
  unfold bit; rw [Nat.shiftRight_add]

/-- The bit buffer holds the `numBits` stream bits that follow logical position `pos`, and the
    input cursor is just behind them. -/
structure Rep (data : Array UInt8) (c : Ctx) (pos : Nat) : Prop where
  inLe  : c.inPos ≤ data.size
  posEq : 8 * c.inPos = pos + c.r.numBits
  lt    : c.r.bitBuf < 2 ^ c.r.numBits
  bits  : ∀ i, i < c.r.numBits → bitAt data (pos + i) = some (bit c.r.bitBuf i)

theorem bitAt_byte {data : Array UInt8} {k : Nat} {b : UInt8} (h : data[k]? = some b) (j : Nat) (hj : j < 8) :
    bitAt data (8 * k + j) = some (bit b.toNat j) := by
  unfold bitAt bit
  have h1 : (8 * k + j) / 8 = k := by omega
  have h2 : (8 * k + j) % 8 = j := by omega
  rw [h1, h2, h]

theorem Rep.pull {data : Array UInt8} {c : Ctx} {pos : Nat} {b : UInt8} (h : Rep data c pos)
    (hb : data[c.inPos]? = some b) : Rep data (pull c b) pos := by
  have hlt : c.inPos < data.size := getElem?_some_lt hb
  have hb8 : b.toNat < 2 ^ 8 := b.toNat_lt
  refine ⟨by simp [Model.Core.pull]; omega, by simp [Model.Core.pull]; have := h.posEq; omega, ?_, ?_⟩
  · show c.r.bitBuf ||| b.toNat <<< c.r.numBits < 2 ^ (c.r.numBits + 8)
    apply Nat.or_lt_two_pow
    · exact Nat.lt_of_lt_of_le h.lt (Nat.pow_le_pow_right (by decide) (by omega))
    · rw [Nat.shiftLeft_eq, Nat.pow_add, Nat.mul_comm]
      exact Nat.mul_lt_mul_of_le_of_lt (Nat.le_refl _) hb8 (Nat.two_pow_pos _)
  · intro i hi
    show bitAt data (pos + i) = some (bit (c.r.bitBuf ||| b.toNat <<< c.r.numBits) i)
    have hi' : i < c.r.numBits + 8 := hi
    rw [bit_eq_testBit, Nat.testBit_or, Nat.testBit_shiftLeft]
    by_cases hlo : i < c.r.numBits
    · have : ¬ (i ≥ c.r.numBits) := by omega
      simp only [this, decide_false, Bool.false_and, Bool.or_false]
      rw [← bit_eq_testBit]
      exact h.bits i hlo
    · have hge : i ≥ c.r.numBits := by omega
      have hz : c.r.bitBuf.testBit i = false :=
        Nat.testBit_lt_two_pow (Nat.lt_of_lt_of_le h.lt (Nat.pow_le_pow_right (by decide) hge))
      simp only [hz, hge, decide_true, Bool.true_and, Bool.false_or]
      rw [← bit_eq_testBit]
      have hp := h.posEq
      have : pos + i = 8 * c.inPos + (i - c.r.numBits) := by omega
      rw [this]
      exact bitAt_byte hb _ (by omega)

def consume (c : Ctx) (n : Nat) : Ctx :=
  { c with r := { c.r with bitBuf := c.r.bitBuf >>> n, numBits := c.r.numBits - n } }

theorem Rep.consume {data : Array UInt8} {c : Ctx} {pos : Nat} (h : Rep data c pos) (n : Nat)
    (hn : n ≤ c.r.numBits) : Rep data (consume c n) (pos + n) := by
  refine ⟨h.inLe, by simp [Model.Core.consume]; have := h.posEq; omega, ?_, ?_⟩
  · show c.r.bitBuf >>> n < 2 ^ (c.r.numBits - n)
    rw [Nat.shiftRight_eq_div_pow]
    apply Nat.div_lt_of_lt_mul
    rw [← Nat.pow_add]
    have : n + (c.r.numBits - n) = c.r.numBits := by omega
    rw [this]; exact h.lt
  · intro i hi
    show bitAt data (pos + n + i) = some (bit (c.r.bitBuf >>> n) i)
    have hi' : i < c.r.numBits - n := hi
    rw [bit_shiftRight, Nat.add_assoc]
    exact h.bits (n + i) (by omega)

theorem bitsAt_of_bits (data : Array UInt8) (n : Nat) : ∀ (pos x : Nat),
    (∀ i, i < n → bitAt data (pos + i) = some (bit x i)) → bitsAt data pos n = some (x % 2 ^ n) := by
  induction n with
  | zero => intro pos x _; simp [bitsAt, Nat.mod_one]
  | succ n ih =>
    intro pos x h
    unfold bitsAt
    have h0 := h 0 (by omega)
    rw [Nat.add_zero] at h0
    have hr := ih (pos + 1) (x / 2) (by
      intro i hi
      have := h (i + 1) (by omega)
      have e : pos + 1 + i = pos + (i + 1) := by omega
      rw [e, this]
      unfold bit
      rw [Nat.shiftRight_eq_div_pow, Nat.shiftRight_eq_div_pow, Nat.pow_succ, Nat.mul_comm, ← Nat.div_div_eq_div_mul])
    rw [h0, hr]
    simp only [Option.some.injEq]
    have e : 2 ^ (n + 1) = 2 * 2 ^ n := by rw [Nat.pow_succ, Nat.mul_comm]
    rw [e, Nat.mod_mul]
    unfold bit
    rw [Nat.shiftRight_zero]

theorem bitsAt_of_rep {data : Array UInt8} {c : Ctx} {pos : Nat} (h : Rep data c pos) (n : Nat)
    (hn : n ≤ c.r.numBits) : bitsAt data pos n = some (c.r.bitBuf % 2 ^ n) :=
  bitsAt_of_bits data n pos _ fun i hi => h.bits i (by omega)

theorem bitsAt_some_bitAt (data : Array UInt8) (n : Nat) : ∀ (pos v : Nat), bitsAt data pos n = some v →
    ∀ i, i < n → (bitAt data (pos + i)).isSome = true := by
  induction n with
  | zero => intro pos v _ i hi; omega
  | succ n ih =>
    intro pos v h i hi
    unfold bitsAt at h
    cases hb : bitAt data pos with
    | none => simp [hb] at h
    | some b =>
      cases hr : bitsAt data (pos + 1) n with
      | none => simp [hb, hr] at h
      | some r =>
        cases i with
        | zero => simp [hb]
        | succ i =>
          have := ih (pos + 1) r hr i (by omega)
          have e : pos + 1 + i = pos + (i + 1) := by omega
          rw [e] at this; exact this

theorem bitAt_isSome_byte {data : Array UInt8} {p : Nat} (h : (bitAt data p).isSome = true) :
    ∃ b, data[p / 8]? = some b := by
  unfold bitAt at h
  cases hb : data[p / 8]? with
  | none => simp [hb] at h
  | some b => exact ⟨b, rfl⟩

theorem Rep.next_byte {data : Array UInt8} {c : Ctx} {pos : Nat} (h : Rep data c pos)
    (hs : (bitAt data (pos + c.r.numBits)).isSome = true) : ∃ b, data[c.inPos]? = some b := by
  obtain ⟨b, hb⟩ := bitAt_isSome_byte hs
  have hp := h.posEq
  have e : (pos + c.r.numBits) / 8 = c.inPos := by omega
  exact ⟨b, e ▸ hb⟩

theorem readBits_rep {data : Array UInt8} {c : Ctx} {pos n v : Nat} (hr : Rep data c pos)
    (hv : bitsAt data pos n = some v) :
    (readBits data n c).2 = some v ∧ Rep data (readBits data n c).1 (pos + n) := by
  rw [readBits_eq]
  refine pullBits_ind (P := fun c p => Rep data c pos → p.2 = some v ∧ Rep data p.1 (pos + n))
    (fun c m w hd hr => ?_) (fun c hd hb hr => ?_) (fun c b r _ hb ih hr => ih (hr.pull hb)) c hr
  · obtain ⟨hm, hn, hw⟩ := bitsDec_some hd
    subst hm hw
    rw [bitsAt_of_rep hr _ hn] at hv
    exact ⟨hv, hr.consume _ hn⟩
  · obtain ⟨b, hb'⟩ := hr.next_byte (bitsAt_some_bitAt data n pos v hv c.r.numBits (bitsDec_none hd))
    exact nomatch hb.symm.trans hb'

theorem decodeSymAux_span (code : Code) (data : Array UInt8) : ∀ (fuel len pos cd first index s p : Nat),
    decodeSymAux code data fuel len pos cd first index = .sym s p →
    pos < p ∧ ∀ q, pos ≤ q → q < p → (bitAt data q).isSome = true := by
  intro fuel
  induction fuel with
  | zero => intro len pos cd first index s p h; cases h
  | succ fuel ih =>
    intro len pos cd first index s p h
    obtain ⟨hi, b, hb⟩ := decodeSymAux_sym h
    rw [decodeSymAux_bit _ _ _ _ _ _ _ _ hi hb] at h
    have h0 : ∀ q, q = pos → (bitAt data q).isSome = true := fun q hq => by rw [hq, hb]; rfl
    split at h
    · injection h with _ hp
      exact ⟨by omega, fun q h1 h2 => h0 q (by omega)⟩
    · obtain ⟨h1, h2⟩ := ih _ _ _ _ _ _ _ h
      exact ⟨by omega, fun q hq1 hq2 => if hq : q = pos then h0 q hq else h2 q (by omega) hq2⟩

theorem decodeSymAux_pos (code : Code) (data : Array UInt8) (fuel len pos cd first index s p : Nat)
    (h : decodeSymAux code data fuel len pos cd first index = .sym s p) : pos < p :=
  (decodeSymAux_span code data _ _ _ _ _ _ _ _ h).1

theorem decodeSymAux_avail (code : Code) (data : Array UInt8) (fuel len pos cd first index s p : Nat)
    (h : decodeSymAux code data fuel len pos cd first index = .sym s p) :
    ∀ q, pos ≤ q → q < p → (bitAt data q).isSome = true :=
  (decodeSymAux_span code data _ _ _ _ _ _ _ _ h).2

/-- Lock-step comparison of the specification's code walk over the stream with the model's walk
    over its bit buffer holding the `n` bits that follow `p0`. -/
theorem decodeBufAux_of_sym (code : Code) (data : Array UInt8) (buf n p0 : Nat)
    (hbits : ∀ i, i < n → bitAt data (p0 + i) = some (bit buf i)) :
    ∀ (fuel len used cd first index s p : Nat),
    decodeSymAux code data fuel len (p0 + used) cd first index = .sym s p →
    (p ≤ p0 + n → decodeBufAux code buf n fuel len used cd first index = .sym s (p - p0)) ∧
    (p0 + n < p → decodeBufAux code buf n fuel len used cd first index = .short) := by
  intro fuel
  induction fuel with
  | zero => intro len used cd first index s p h; cases h
  | succ fuel ih =>
    intro len used cd first index s p h
    have hpos := decodeSymAux_pos code data _ _ _ _ _ _ _ _ h
    obtain ⟨hi, b, hb⟩ := decodeSymAux_sym h
    rw [decodeBufAux_succ, if_neg (Nat.not_le.mpr hi)]
    by_cases hu : used ≥ n
    · rw [if_pos hu]
      exact ⟨fun hle => by omega, fun _ => rfl⟩
    · rw [if_neg hu]
      have hbu : bitAt data (p0 + used) = some (buf >>> used % 2) := hbits used (by omega)
      rw [decodeSymAux_bit _ _ _ _ _ _ _ _ hi hbu] at h
      split at h
      · rename_i hlt
        rw [if_pos hlt]
        injection h with h1 h2
        exact ⟨fun _ => by rw [h1, show used + 1 = p - p0 by omega], fun hgt => by omega⟩
      · rename_i hlt
        rw [if_neg hlt]
        exact ih _ _ _ _ _ _ _ h

theorem decodeHuff_rep {data : Array UInt8} {code : Code} {c : Ctx} {pos s p : Nat} (hr : Rep data c pos)
    (hs : decodeSym code data pos = .sym s p) :
    (decodeHuff data code c).2 = some s ∧ Rep data (decodeHuff data code c).1 p ∧
    (c.r.numBits < 8 → (decodeHuff data code c).1.r.numBits < 8) := by
  have hpos : pos < p := decodeSymAux_pos code data _ _ _ _ _ _ _ _ hs
  -- what the buffered bits decide, by comparison with the specification's walk
  have key : ∀ c : Ctx, Rep data c pos →
      (p ≤ pos + c.r.numBits ∧ huffDec code c.r.bitBuf c.r.numBits = some (p - pos, s)) ∨
      (pos + c.r.numBits < p ∧ huffDec code c.r.bitBuf c.r.numBits = none) := fun c hr => by
    have hcmp := decodeBufAux_of_sym code data c.r.bitBuf c.r.numBits pos hr.bits 15 1 0 0 0 0 s p
      (by rw [Nat.add_zero]; exact hs)
    unfold huffDec
    by_cases hle : p ≤ pos + c.r.numBits
    · have hd : decodeBuf code c.r.bitBuf c.r.numBits = .sym s (p - pos) := hcmp.1 hle
      rw [hd]; exact .inl ⟨hle, rfl⟩
    · have hd : decodeBuf code c.r.bitBuf c.r.numBits = .short := hcmp.2 (Nat.lt_of_not_le hle)
      rw [hd]; exact .inr ⟨Nat.lt_of_not_le hle, rfl⟩
  rw [decodeHuff_eq]
  refine (fun this => ⟨this.1, this.2.1, fun h8 => this.2.2 (by omega)⟩)
    (pullBits_ind (P := fun c r => Rep data c pos →
        r.2 = some s ∧ Rep data r.1 p ∧ (pos + c.r.numBits < p + 8 → r.1.r.numBits < 8))
      (fun c n v hd hr => ?_) (fun c hd hb hr => ?_) (fun c b r hd hb ih hr => ?_) c hr)
  · rcases key c hr with ⟨hle, h⟩ | ⟨_, h⟩
    · rw [h] at hd; cases hd
      have := hr.consume (p - pos) (by omega)
      rw [show pos + (p - pos) = p by omega] at this
      exact ⟨rfl, this, fun _ => by show c.r.numBits - (p - pos) < 8; omega⟩
    · rw [h] at hd; cases hd
  · rcases key c hr with ⟨_, h⟩ | ⟨hlt, _⟩
    · rw [h] at hd; cases hd
    · -- the next stream bit is part of the code, so its byte exists
      obtain ⟨b, hb'⟩ := hr.next_byte (decodeSymAux_avail code data _ _ _ _ _ _ _ _ hs _ (Nat.le_add_right _ _) hlt)
      exact nomatch hb.symm.trans hb'
  · rcases key c hr with ⟨_, h⟩ | ⟨hlt, _⟩
    · rw [h] at hd; cases hd
    · have := ih (hr.pull hb)
      exact ⟨this.1, this.2.1, fun _ => this.2.2 (by show pos + (c.r.numBits + 8) < p + 8; omega)⟩

theorem readBits_nb8 {inp : Array UInt8} {amount : Nat} {c : Ctx} {v : Nat} (h8 : c.r.numBits < 8)
    (h : (readBits inp amount c).2 = some v) : (readBits inp amount c).1.r.numBits < 8 := by
  rw [readBits_eq] at h ⊢
  refine pullBits_ind (P := fun c p => c.r.numBits < amount + 8 → p.2 = some v → p.1.r.numBits < 8)
    (fun c n w hd hlt _ => ?_) (fun c _ _ _ h => nomatch h) (fun c b r hd _ ih hlt => ih ?_) c (by omega) h
  · obtain ⟨hn, _, _⟩ := bitsDec_some hd
    show c.r.numBits - n < 8
    omega
  · have := bitsDec_none hd
    show c.r.numBits + 8 < amount + 8
    omega

/-- By `Array.size_replicate`, not by evaluating the 512-entry array. -/
theorem fresh_shape : ({} : Regs).rawHeader.size = 4 ∧ ({} : Regs).tableSizes.size = 3 ∧ ({} : Regs).lenCodes.size = 512 :=
  ⟨rfl, rfl, Array.size_replicate⟩

end Model.Core
