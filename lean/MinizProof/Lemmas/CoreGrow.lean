/-
Suspending and resuming the decoder model when the granted output window is full: transitions under
a smaller window versus a larger one, state by state, and the run-level theorem. The relation between
the two calls and the induction over runs are those of `Lemmas/CoreSplit` (`StopRel`, `Link`, `run_link`),
with "has more output" as the suspending status.
For Props/C07.
-/
import MinizProof.Lemmas.CoreSplit
namespace Model.Core
open Spec

-- sealed while shape lemmas are matched against state functions (see `Lemmas/CoreBasic`)
attribute [local irreducible] readBits decodeHuff Array.instGetElem?NatLtSize

def Env.grow (e : Env) (E2 : Nat) : Env := { e with outEnd := E2 }

@[simp] theorem Env.grow_ring (e : Env) (E2 : Nat) : (e.grow E2).ring = e.ring := rfl
@[simp] theorem Env.grow_outLen (e : Env) (E2 : Nat) : (e.grow E2).outLen = e.outLen := rfl
@[simp] theorem Env.grow_outEnd (e : Env) (E2 : Nat) : (e.grow E2).outEnd = E2 := rfl
@[simp] theorem Env.grow_inp (e : Env) (E2 : Nat) : (e.grow E2).inp = e.inp := rfl
@[simp] theorem Env.grow_eoi (e : Env) (E2 : Nat) : (e.grow E2).eoi = e.eoi := rfl

theorem Final.step_inv {e : Env} {c c' : Ctx} {o o' : Array UInt8} {R : Int × Ctx × Array UInt8}
    (h : step e c o = .cont c' o') (hf : Final e c o R) : Final e c' o' R := by
  obtain ⟨f, hf, hne⟩ := hf
  cases f with
  | zero => rw [run] at hf; rw [← hf] at hne; exact absurd rfl hne
  | succ f => rw [run, h] at hf; exact ⟨f, hf, hne⟩

theorem hmo_ne_done : stHasMoreOutput ≠ stDone := by decide
theorem eoi_ne_hmo (e : Env) : e.eoi ≠ stHasMoreOutput := fun h => hmo_ne_eoi e h.symm

variable {e : Env} {E2 : Nat} {c : Ctx} {out : Array UInt8}

theorem grow_reader {s : Nat} {f : Env → Ctx → Array UInt8 → Step} (hf : f (e.grow E2) c out = f e c out)
    (hs : (f e c out).stops (· = stopOf e s)) (he : stopOf e s = e.eoi) :
    StopRel stHasMoreOutput c out (fun c0 => f (e.grow E2) c0 out) (f e c out) :=
  stop_same hf (hs.mono fun _ h => h ▸ he ▸ eoi_ne_hmo e)

theorem grow_full {F : Ctx → Step} : StopRel stHasMoreOutput c out F (.fin stHasMoreOutput c out) := Or.inl ⟨rfl, rfl, Kept.refl c, rfl⟩

theorem room_grow (hE : e.outEnd ≤ E2) (h : ¬ wrBytesLeft c e.outEnd = 0) : ¬ wrBytesLeft c (e.grow E2).outEnd = 0 := by
  unfold wrBytesLeft at *
  show ¬ E2 - c.outPos = 0
  omega

theorem grow_RawStoreFirstByte (hE : e.outEnd ≤ E2) :
    StopRel stHasMoreOutput c out (fun c0 => stRawStoreFirstByte (e.grow E2) c0 out) (stRawStoreFirstByte e c out) := by
  unfold stRawStoreFirstByte
  by_cases h0 : wrBytesLeft c e.outEnd = 0
  · rw [if_pos h0]; exact grow_full
  · rw [if_neg h0]
    exact stop_same (if_neg (room_grow hE h0)) (stops_ite stops_cont stops_cont)

theorem grow_RawMemcpy1 (hE : e.outEnd ≤ E2) :
    StopRel stHasMoreOutput c out (fun c0 => stRawMemcpy1 (e.grow E2) c0 out) (stRawMemcpy1 e c out) := by
  unfold stRawMemcpy1
  by_cases hc : c.r.counter = 0
  · rw [if_pos hc]; exact stop_same (if_pos hc) stops_cont
  · rw [if_neg hc]
    by_cases h0 : wrBytesLeft c e.outEnd = 0
    · rw [if_pos h0]; exact grow_full
    · rw [if_neg h0]
      exact stop_same ((if_neg hc).trans (if_neg (room_grow hE h0))) stops_cont

theorem grow_WriteSymbol (hE : e.outEnd ≤ E2) :
    StopRel stHasMoreOutput c out (fun c0 => stWriteSymbol (e.grow E2) c0 out) (stWriteSymbol e c out) := by
  unfold stWriteSymbol
  by_cases hc : c.r.counter ≥ 256
  · rw [if_pos hc]; exact stop_same (if_pos hc) stops_cont
  · rw [if_neg hc]
    by_cases h0 : wrBytesLeft c e.outEnd > 0
    · have h2 : wrBytesLeft c (e.grow E2).outEnd > 0 := Nat.pos_of_ne_zero (room_grow hE (Nat.ne_of_gt h0))
      rw [if_pos h0]
      exact stop_same ((if_neg hc).trans (if_pos h2)) stops_cont
    · rw [if_neg h0]; exact grow_full

theorem copyBytes_add (rs : Nat) (ring : Bool) (n m : Nat) : ∀ (out : Array UInt8) (p src : Nat),
    copyBytes out p src rs ring (n + m) = copyBytes (copyBytes out p src rs ring n) (p + n) (src + n) rs ring m := by
  induction n with
  | zero => intro out p src; rw [Nat.zero_add]; rfl
  | succ n ih =>
    intro out p src
    rw [Nat.add_right_comm n 1 m, copyBytes, copyBytes, ih, Nat.add_right_comm p 1 n, Nat.add_right_comm src 1 n]
    rfl

theorem copyBytes_mod (rs : Nat) (n : Nat) : ∀ (out : Array UInt8) (p src src' : Nat), src % rs = src' % rs →
    copyBytes out p src rs true n = copyBytes out p src' rs true n := by
  induction n with
  | zero => intro out p src src' _; rfl
  | succ n ih =>
    intro out p src src' h
    unfold copyBytes
    simp only [↓reduceIte, h]
    exact ih _ _ _ _ (by rw [Nat.add_mod, h, ← Nat.add_mod])

theorem stMatch_setState (e : Env) (c : Ctx) (s : Nat) (out : Array UInt8) :
    stMatch e (setState c s) out = stMatch e c out := by
  unfold stMatch; rfl

def matchSrc (e : Env) (c : Ctx) : Nat :=
  if e.ring then (c.outPos + e.outLen - c.r.dist) % max e.outLen 1 else c.outPos - c.r.dist

def matchNext (c : Ctx) (n : Nat) : Ctx :=
  setState { c with r := { c.r with counter := c.r.counter - n }, outPos := c.outPos + n }
    (if c.r.counter - n = 0 then sDecodeLitlen else sWriteLenBytesToEnd)

def matchOob (e : Env) (c : Ctx) : Prop := (c.r.dist > c.outPos ∧ (!e.ring) = true) ∨ c.r.dist > e.outLen

instance (e : Env) (c : Ctx) : Decidable (matchOob e c) := by unfold matchOob; infer_instance

theorem stMatch_eq (e : Env) (c : Ctx) (out : Array UInt8) :
    stMatch e c out =
      if matchOob e c then .cont (setState c sDistanceOutOfBounds) out
      else if c.r.counter = 0 then .cont (setState c sDecodeLitlen) out
      else if e.outEnd - c.outPos = 0 then .fin stHasMoreOutput (setState c sWriteLenBytesToEnd) out
      else .cont (matchNext c (min (e.outEnd - c.outPos) c.r.counter))
        (copyBytes out c.outPos (matchSrc e c) (max e.outLen 1) e.ring (min (e.outEnd - c.outPos) c.r.counter)) := by
  exact ite_congr rfl (fun _ => rfl) fun _ => ite_congr rfl (fun _ => rfl) fun _ => ite_congr rfl (fun _ => rfl)
    fun _ => (apply_ite (fun s => Step.cont (setState _ s) _) _ _ _).symm

/-- A copy of `min A' K` bytes against the copy of `min A K` bytes that a smaller room `A ≤ A'` allows:
    the same copy, or the smaller room is the limit and the larger copy is the smaller one and a rest. -/
theorem min_two_piece {A A' K : Nat} (h : A ≤ A') :
    min A' K = min A K ∨ (min A K = A ∧ K - A ≠ 0 ∧ A' - A ≠ 0 ∧ min A' K = A + min (A' - A) (K - A)) := by
  by_cases hK : K ≤ A
  · exact .inl (by rw [Nat.min_eq_right hK, Nat.min_eq_right (Nat.le_trans hK h)])
  · by_cases hA : A' ≤ A
    · exact .inl (by rw [Nat.le_antisymm hA h])
    · refine .inr ⟨Nat.min_eq_left (by omega), by omega, by omega, ?_⟩
      rw [← Nat.add_min_add_left, Nat.add_sub_cancel' h, Nat.add_sub_cancel' (by omega)]

theorem matchNext_add (c : Ctx) (a n : Nat) : matchNext (matchNext c a) n = matchNext c (a + n) := by
  unfold matchNext
  simp only [setState, Nat.sub_sub, Nat.add_assoc]

theorem src_ring {p L d A : Nat} (h : d ≤ L) : p + A + L - d = p + L - d + A := by
  rw [Nat.add_right_comm, Nat.sub_add_comm (Nat.le_trans h (Nat.le_add_left L p))]

theorem matchSrc_next (hoob : ¬ matchOob e c) (a : Nat) (o : Array UInt8) (p n : Nat) :
    copyBytes o p (matchSrc e (matchNext c a)) (max e.outLen 1) e.ring n =
      copyBytes o p (matchSrc e c + a) (max e.outLen 1) e.ring n := by
  unfold matchSrc
  show copyBytes o p (if e.ring = true then (c.outPos + a + e.outLen - c.r.dist) % max e.outLen 1
    else c.outPos + a - c.r.dist) _ _ n = _
  cases hr : e.ring with
  | true =>
    simp only [↓reduceIte]
    apply copyBytes_mod
    rw [Nat.mod_mod, Nat.add_mod, Nat.mod_mod, ← Nat.add_mod,
      src_ring (Nat.le_of_not_lt fun h => hoob (Or.inr h))]
  | false =>
    simp only [Bool.false_eq_true, ↓reduceIte]
    rw [Nat.sub_add_comm (Nat.le_of_not_lt fun h => hoob (Or.inl ⟨h, by rw [hr]; rfl⟩))]

theorem matchOob_next (hoob : ¬ matchOob e c) (a : Nat) : ¬ matchOob e (matchNext c a) := by
  rintro (⟨h1, h2⟩ | h)
  · exact hoob (Or.inl ⟨Nat.lt_of_le_of_lt (Nat.le_add_right _ a) h1, h2⟩)
  · exact hoob (Or.inr h)

/-- Every state except the copy states. Only three of them look at the window. -/
theorem step_grow (hE : e.outEnd ≤ E2) (hne : c.r.state ≠ sRawMemcpy2)
    (hm1 : c.r.state ≠ sHuffDecodeOuterLoop2) (hm2 : c.r.state ≠ sWriteLenBytesToEnd) :
    StopRel stHasMoreOutput c out (fun c0 => step (e.grow E2) c0 out) (step e c out) := by
  refine StopRel.lift (F' := fun c0 => stepAt c.r.state (e.grow E2) c0 out)
    (fun c0 h0 => by unfold step; rw [h0.regs]) ?_
  exact stepAt_cases (s := c.r.state)
    (P := fun s f => (f e c out).stops (· = stopOf e s) → s ≠ sRawMemcpy2 → s ≠ sHuffDecodeOuterLoop2 →
      s ≠ sWriteLenBytesToEnd → StopRel stHasMoreOutput c out (fun c0 => f (e.grow E2) c0 out) (f e c out))
    (hStart := fun hs _ _ _ => grow_reader rfl hs rfl)
    (hZlibCmf := fun hs _ _ _ => grow_reader rfl hs rfl)
    (hZlibFlg := fun hs _ _ _ => grow_reader rfl hs rfl)
    (hBlockHeader := fun hs _ _ _ => grow_reader rfl hs rfl)
    (hNoCompression := fun hs _ _ _ => grow_reader rfl hs rfl)
    (hRawHeader := fun hs _ _ _ => grow_reader rfl hs rfl)
    (hRawReadFirstByte := fun hs _ _ _ => grow_reader rfl hs rfl)
    (hRawStoreFirstByte := fun _ _ _ _ => grow_RawStoreFirstByte hE)
    (hRawMemcpy1 := fun _ _ _ _ => grow_RawMemcpy1 hE)
    (hRawMemcpy2 := fun _ h _ _ => absurd rfl h)
    (hTableSizes := fun hs _ _ _ => grow_reader rfl hs rfl)
    (hHufflen := fun hs _ _ _ => grow_reader rfl hs rfl)
    (hLitlenDist := fun hs _ _ _ => grow_reader rfl hs rfl)
    (hExtraCodeSize := fun hs _ _ _ => grow_reader rfl hs rfl)
    (hDecodeLitlen := fun hs _ _ _ => grow_reader rfl hs rfl)
    (hWriteSymbol := fun _ _ _ _ => grow_WriteSymbol hE)
    (hOuterLoop1 := fun hs _ _ _ => grow_reader rfl hs rfl)
    (hExtraLitlen := fun hs _ _ _ => grow_reader rfl hs rfl)
    (hDecodeDistance := fun hs _ _ _ => grow_reader rfl hs rfl)
    (hExtraDistance := fun hs _ _ _ => grow_reader rfl hs rfl)
    (hOuterLoop2 := fun _ _ h _ => absurd rfl h)
    (hWriteLenBytes := fun _ _ _ h => absurd rfl h)
    (hBlockDone := fun hs _ _ _ => stop_same rfl (hs.mono fun _ h => h ▸ (by decide : stBlockBoundary ≠ stHasMoreOutput)))
    (hAdler32 := fun hs _ _ _ => grow_reader rfl hs rfl)
    (hDone := fun _ _ _ _ => stop_same rfl (stops_fin (by decide)))
    (hFailed := fun _ _ _ _ _ _ => stop_same rfl (stops_fin (by decide)))
    (stepAt_stop _ e c out) hne hm1 hm2

theorem Geo.grow {e : Env} {E2 : Nat} {c : Ctx} {out : Array UInt8} (g : Geo e c out) (hE : e.outEnd ≤ E2)
    (h2 : E2 ≤ out.size) : Geo (e.grow E2) c out :=
  ⟨g.inLe, Nat.le_trans g.outLe hE, h2⟩

theorem hmo_ne_modelError : stHasMoreOutput ≠ stModelError := by decide

/-- `HuffDecodeOuterLoop2` / `WriteLenBytesToEnd` under a smaller window: the same transition as
    with the larger window, a stop for lack of room from which the larger-window transition is
    unchanged, or a partial copy that the larger window completes in the same place. -/
theorem grow_Match (hE : e.outEnd ≤ E2) (hs : c.r.state = sHuffDecodeOuterLoop2 ∨ c.r.state = sWriteLenBytesToEnd) :
    Link e (e.grow E2) stHasMoreOutput c out (stMatch e c out) := by
  have hA : e.outEnd - c.outPos ≤ E2 - c.outPos := Nat.sub_le_sub_right hE _
  have hbig : step (e.grow E2) c out = _ :=
    (hs.elim step_Match1 step_Match2).trans (stMatch_eq (e.grow E2) c out)
  -- resumed in `WriteLenBytesToEnd`, the larger window's transition is the match copy again
  have hres : ∀ (c0 : Ctx) (o0 : Array UInt8), stMatch (e.grow E2) c0 o0 = step (e.grow E2) c out →
      step (e.grow E2) (setState c0 sWriteLenBytesToEnd) o0 = step (e.grow E2) c out := fun c0 o0 h =>
    (step_Match2 (c := setState c0 sWriteLenBytesToEnd) rfl).trans ((stMatch_setState ..).trans h)
  rw [stMatch_eq e c out]
  by_cases hoob : matchOob e c
  · rw [if_pos hoob]; exact .inl (hbig.trans (if_pos hoob))
  · rw [if_neg hoob]
    replace hbig := hbig.trans (if_neg hoob)
    by_cases hc0 : c.r.counter = 0
    · rw [if_pos hc0]; exact .inl (hbig.trans (if_pos hc0))
    · rw [if_neg hc0]
      replace hbig := hbig.trans (if_neg hc0)
      by_cases h0 : e.outEnd - c.outPos = 0
      · rw [if_pos h0]
        exact .inl ⟨rfl, fun R hR => Final.of_step_eq (hres c out (hs.elim step_Match1 step_Match2).symm).symm hR⟩
      · rw [if_neg h0]
        replace hbig := hbig.trans (if_neg (show ¬ E2 - c.outPos = 0 from fun h => h0 (Nat.le_zero.mp (h ▸ hA))))
        rcases min_two_piece (K := c.r.counter) hA with hsame | ⟨hn, hK, hA2, hN⟩
        · exact .inl (hbig.trans (by rw [← hsame]; rfl))
        · -- the window is the limiting factor: the copy stops for lack of room one transition later
          rw [hn]
          have hoob' := matchOob_next hoob (e.outEnd - c.outPos)
          have hK' : ¬ (matchNext c (e.outEnd - c.outPos)).r.counter = 0 := hK
          refine .inr fun R1 hR1 => ?_
          have h1 := (step_Match2 (e := e) (c := matchNext c (e.outEnd - c.outPos))
            (o := copyBytes out c.outPos (matchSrc e c) (max e.outLen 1) e.ring (e.outEnd - c.outPos)) (if_neg hK)).trans
            ((stMatch_eq ..).trans ((if_neg hoob').trans ((if_neg hK').trans
              (if_pos ((Nat.sub_add_eq e.outEnd c.outPos _).trans (Nat.sub_self _))))))
          rw [Final.unique hR1 (Final.of_fin h1 hmo_ne_modelError)]
          refine ⟨rfl, fun R hR => Final.of_step_eq (hres _ _ ?_).symm hR⟩
          rw [hbig, stMatch_eq, if_neg (show ¬ matchOob (e.grow E2) _ from hoob'), if_neg hK']
          refine (if_neg (show ¬ E2 - (c.outPos + (e.outEnd - c.outPos)) = 0 by rw [Nat.sub_add_eq]; exact hA2)).trans ?_
          show Step.cont (matchNext (matchNext c (e.outEnd - c.outPos))
              (min (E2 - (c.outPos + (e.outEnd - c.outPos))) (c.r.counter - (e.outEnd - c.outPos))))
            (copyBytes _ (c.outPos + (e.outEnd - c.outPos)) (matchSrc e (matchNext c (e.outEnd - c.outPos)))
              (max e.outLen 1) e.ring
              (min (E2 - (c.outPos + (e.outEnd - c.outPos))) (c.r.counter - (e.outEnd - c.outPos)))) = _
          rw [matchNext_add, matchSrc_next hoob, Nat.sub_add_eq, ← hN, ← copyBytes_add, ← hN]
          rfl

/-- `RawMemcpy2` under a smaller window: the same transition as with the larger window, or the
    window ended inside the stored data — then `RawMemcpy1` stops for lack of room, and resumed with
    the larger window the rest of the copy lands where the whole copy lands. -/
theorem grow_RawMemcpy2 (hE : e.outEnd ≤ E2) (hs : c.r.state = sRawMemcpy2) :
    Link e (e.grow E2) stHasMoreOutput c out (stRawMemcpy2 e c out) := by
  have hA : e.outEnd - c.outPos ≤ E2 - c.outPos := Nat.sub_le_sub_right hE _
  rw [stRawMemcpy2_eq e c out]
  by_cases hin : c.inPos < e.inp.size
  · rw [if_pos hin]
    have hbig : step (e.grow E2) c out = _ :=
      (step_RawMemcpy2 hs).trans ((stRawMemcpy2_eq (e.grow E2) c out).trans (if_pos hin))
    rw [Nat.min_assoc]
    rcases min_room_cases (P := e.inp.size - c.inPos) (Q := c.r.counter) hA with hsame | ⟨hn, hB, hK, h2⟩
    · exact .inl (hbig.trans (by rw [← hsame, ← Nat.min_assoc]; rfl))
    · -- the window is the limiting factor
      rw [hn]
      have hroom : e.outEnd - (c.outPos + (e.outEnd - c.outPos)) = 0 := (Nat.sub_add_eq ..).trans (Nat.sub_self _)
      have hroom2 : ¬ E2 - (c.outPos + (e.outEnd - c.outPos)) = 0 := Nat.sub_add_eq .. ▸ Nat.sub_ne_zero_of_lt h2
      refine .inr fun R1 hR1 => ?_
      have h1 := fun e0 => step_RawMemcpy1 (e := e0) (c := memcpyNext c (e.outEnd - c.outPos))
        (o := copyIn e.inp out c.outPos c.inPos (e.outEnd - c.outPos)) rfl
      rw [Final.unique hR1 (Final.of_fin ((h1 e).trans ((if_neg (Nat.sub_ne_zero_of_lt hK)).trans (if_pos hroom)))
        hmo_ne_modelError)]
      refine ⟨rfl, fun R hR => ?_⟩
      have hR2 := Final.step_inv ((h1 (e.grow E2)).trans ((if_neg (Nat.sub_ne_zero_of_lt hK)).trans (if_neg hroom2))) hR
      exact Final.of_step_eq ((step_RawMemcpy2 hs).trans
        ((memcpy2_resume (e.grow E2) c out _ hA (Nat.le_of_lt hK) (Nat.add_lt_of_lt_sub' hB)).symm.trans
          (step_RawMemcpy2 (c := setState _ sRawMemcpy2) rfl).symm)) hR2
  · rw [if_neg hin]
    exact .inr ⟨eoi_ne_hmo e, (step_RawMemcpy2 hs).trans ((stRawMemcpy2_eq ..).trans (if_neg hin))⟩

theorem grow_link (hE : e.outEnd ≤ E2) (c : Ctx) (out : Array UInt8) (_ : Geo e c out) :
    Link e (e.grow E2) stHasMoreOutput c out (step e c out) := by
  by_cases hm : c.r.state = sRawMemcpy2
  · rw [step_RawMemcpy2 hm]; exact grow_RawMemcpy2 hE hm
  · by_cases hm1 : c.r.state = sHuffDecodeOuterLoop2 ∨ c.r.state = sWriteLenBytesToEnd
    · rw [hm1.elim step_Match1 step_Match2]; exact grow_Match hE hm1
    · exact (step_grow hE hm (fun h => hm1 (.inl h)) (fun h => hm1 (.inr h))).link

theorem run_grow (e : Env) (E2 : Nat) (hE : e.outEnd ≤ E2) :
    ∀ (f : Nat) (c : Ctx) (out : Array UInt8) (c1 : Ctx) (out1 : Array UInt8),
    Geo e c out → run e f c out = (stHasMoreOutput, c1, out1) →
    ∀ R, Final (e.grow E2) c1 out1 R → Final (e.grow E2) c out R :=
  fun f c out _ _ g h => (run_link (grow_link hE) f c out _ g h hmo_ne_modelError).1 rfl

end Model.Core
