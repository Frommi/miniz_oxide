/-
Multi-step execution of the decoder model (`Reaches`) and the dispatch of `step` on a known state.
For the refinement theorems (Props/C03, C06).
-/
import MinizProof.Lemmas.CoreTotal
import MinizProof.Lemmas.CoreBits
namespace Model.Core
open Spec

/-- `(c, out)` evolves to `(c', out')` in finitely many continuing transitions. -/
def Reaches (e : Env) (c : Ctx) (out : Array UInt8) (c' : Ctx) (out' : Array UInt8) : Prop :=
  ∃ k, ∀ fuel, run e (fuel + k) c out = run e fuel c' out'

theorem Reaches.refl (e : Env) (c : Ctx) (out : Array UInt8) : Reaches e c out c out := ⟨0, fun _ => rfl⟩

theorem Reaches.trans {e : Env} {c1 c2 c3 : Ctx} {o1 o2 o3 : Array UInt8}
    (h1 : Reaches e c1 o1 c2 o2) (h2 : Reaches e c2 o2 c3 o3) : Reaches e c1 o1 c3 o3 := by
  obtain ⟨k1, h1⟩ := h1
  obtain ⟨k2, h2⟩ := h2
  refine ⟨k2 + k1, fun fuel => ?_⟩
  rw [← Nat.add_assoc, h1, h2]

theorem Reaches.of_step {e : Env} {c c' : Ctx} {o o' : Array UInt8} (h : step e c o = .cont c' o') :
    Reaches e c o c' o' := by
  refine ⟨1, fun fuel => ?_⟩
  show run e (fuel + 1) c o = _
  conv => lhs; unfold run
  rw [h]

theorem Reaches.step_then {e : Env} {c c1 c' : Ctx} {o o1 o' : Array UInt8} (h : step e c o = .cont c1 o1)
    (h2 : Reaches e c1 o1 c' o') : Reaches e c o c' o' := (Reaches.of_step h).trans h2

variable {e : Env} {c : Ctx} {o : Array UInt8}

theorem step_at {s : Nat} (h : c.r.state = s) : step e c o = stepAt s e c o := by rw [step, h]

-- sealed, so that `stepAt` at the numeral is evaluated down to its row and the row is not opened
-- to be compared, test by test, with the dispatch
attribute [local irreducible] stStart stReadZlibCmf stReadZlibFlg stReadBlockHeader stBlockTypeNoCompression
  stRawHeader stRawReadFirstByte stRawStoreFirstByte stRawMemcpy1 stRawMemcpy2 stReadTableSizes
  stReadHufflenTableCodeSize stReadLitlenDistTablesCodeSize stReadExtraBitsCodeSize stDecodeLitlen stWriteSymbol
  stHuffDecodeOuterLoop1 stReadExtraBitsLitlen stDecodeDistance stReadExtraBitsDistance stMatch stBlockDone
  stReadAdler32

theorem step_Start (h : c.r.state = sStart) : step e c o = stStart e c o := step_at h
theorem step_ReadZlibCmf (h : c.r.state = sReadZlibCmf) : step e c o = stReadZlibCmf e c o := step_at h
theorem step_ReadZlibFlg (h : c.r.state = sReadZlibFlg) : step e c o = stReadZlibFlg e c o := step_at h
theorem step_ReadBlockHeader (h : c.r.state = sReadBlockHeader) : step e c o = stReadBlockHeader e c o := step_at h
theorem step_BlockTypeNoCompression (h : c.r.state = sBlockTypeNoCompression) : step e c o = stBlockTypeNoCompression e c o := step_at h
theorem step_RawHeader (h : c.r.state = sRawHeader) : step e c o = stRawHeader e c o := step_at h
theorem step_RawReadFirstByte (h : c.r.state = sRawReadFirstByte) : step e c o = stRawReadFirstByte e c o := step_at h
theorem step_RawStoreFirstByte (h : c.r.state = sRawStoreFirstByte) : step e c o = stRawStoreFirstByte e c o := step_at h
theorem step_RawMemcpy1 (h : c.r.state = sRawMemcpy1) : step e c o = stRawMemcpy1 e c o := step_at h
theorem step_RawMemcpy2 (h : c.r.state = sRawMemcpy2) : step e c o = stRawMemcpy2 e c o := step_at h
theorem step_ReadTableSizes (h : c.r.state = sReadTableSizes) : step e c o = stReadTableSizes e c o := step_at h
theorem step_ReadHufflenTableCodeSize (h : c.r.state = sReadHufflenTableCodeSize) : step e c o = stReadHufflenTableCodeSize e c o := step_at h
theorem step_ReadLitlenDistTablesCodeSize (h : c.r.state = sReadLitlenDistTablesCodeSize) : step e c o = stReadLitlenDistTablesCodeSize e c o := step_at h
theorem step_ReadExtraBitsCodeSize (h : c.r.state = sReadExtraBitsCodeSize) : step e c o = stReadExtraBitsCodeSize e c o := step_at h
theorem step_DecodeLitlen (h : c.r.state = sDecodeLitlen) : step e c o = stDecodeLitlen e c o := step_at h
theorem step_WriteSymbol (h : c.r.state = sWriteSymbol) : step e c o = stWriteSymbol e c o := step_at h
theorem step_HuffDecodeOuterLoop1 (h : c.r.state = sHuffDecodeOuterLoop1) : step e c o = stHuffDecodeOuterLoop1 e c o := step_at h
theorem step_ReadExtraBitsLitlen (h : c.r.state = sReadExtraBitsLitlen) : step e c o = stReadExtraBitsLitlen e c o := step_at h
theorem step_DecodeDistance (h : c.r.state = sDecodeDistance) : step e c o = stDecodeDistance e c o := step_at h
theorem step_ReadExtraBitsDistance (h : c.r.state = sReadExtraBitsDistance) : step e c o = stReadExtraBitsDistance e c o := step_at h
theorem step_BlockDone (h : c.r.state = sBlockDone) : step e c o = stBlockDone e c o := step_at h
theorem step_ReadAdler32 (h : c.r.state = sReadAdler32) : step e c o = stReadAdler32 e c o := step_at h
theorem step_Match1 (h : c.r.state = sHuffDecodeOuterLoop2) : step e c o = stMatch e c o := step_at h
theorem step_Match2 (h : c.r.state = sWriteLenBytesToEnd) : step e c o = stMatch e c o := step_at h
theorem step_DoneForever (h : c.r.state = sDoneForever) : step e c o = .fin stDone c o := step_at h

end Model.Core
