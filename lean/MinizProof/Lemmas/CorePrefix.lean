/-
What a run has produced so far is a PREFIX of the plaintext — for a valid stream, at every suspended
exit: the flat call on any part of the input with any budget (`FlatTheory.pref`), and the ring
driver after any number of suspended calls (`ring_prefix_of_flat`; raw streams:
`ring_delivered_is_prefix`). Also: with the more-input flag set a call never reports "cannot make
progress" (`decompress_more_ne_cmp`).
Helper lemmas for Props/C13 (the wrapper hands out a prefix of the plaintext after every call).
-/
import MinizProof.Lemmas.CoreRingValid
namespace Model.Core
open Spec

theorem decompress_more_ne_cmp (fl : Nat) (hmore : hasFlag fl fHasMoreInput = true) (r : Regs) (inp out : Array UInt8)
    (outPos budget : Nat) : (decompress r inp out outPos budget fl).status ≠ stFailedCannotMakeProgress := by
  cases hg : badGeometry fl out.size outPos with
  | true => rw [decompress_bad _ _ _ _ _ _ hg]; exact (by decide : stBadParam ≠ stFailedCannotMakeProgress)
  | false =>
    rw [decompress_eq _ _ _ _ _ _ hg]
    have hX := congrArg Prod.fst (callRun_flag (fl := fl) (fl' := fl) ⟨rfl, rfl, rfl, rfl, rfl⟩ r inp out outPos budget)
    dsimp only at hX
    generalize (callRun r inp out outPos budget fl).1 = X at hX ⊢
    have hXne : X ≠ stFailedCannotMakeProgress := by
      intro h
      rw [h] at hX
      have h1 : isEoi stFailedCannotMakeProgress = true := rfl
      rw [if_pos h1] at hX
      unfold endOfInput at hX
      rw [if_pos hmore] at hX
      exact absurd hX (by decide)
    intro hs
    rcases epilogue_status fl outPos (min (outPos + budget) out.size) X (callRun r inp out outPos budget fl).2.1
      (callRun r inp out outPos budget fl).2.2 with h | h
    · rcases exitStatus_cases X (callRun r inp out outPos budget fl).2.1 (min (outPos + budget) out.size) with h2 | h2
      · exact hXne (h2.symm.trans (h.symm.trans hs))
      · exact absurd (h2.1.symm.trans (h.symm.trans hs)) (by decide)
    · exact absurd (h.1.symm.trans hs) (by decide)

/-- A SUSPENDED FLAT CALL ON PART OF A VALID STREAM HAS WRITTEN A PREFIX OF THE PLAINTEXT: the call
    followed by a second call on the rest with room for everything is the single call on the whole
    stream (C07), which writes the plaintext, and the second call does not touch what the first wrote. -/
theorem FlatTheory.pref {fl : Nat} {V : Array UInt8 → Prop} {P : Array UInt8} {L : Nat} (T : FlatTheory fl V P L)
    (a b out : Array UInt8) (budget : Nat) (hv : V (a ++ b)) (hsize : budget + P.size ≤ out.size)
    (hs : suspended (decompress {} a out 0 budget fl)) :
    (decompress {} a out 0 budget fl).written ≤ P.size ∧
    ∀ i, i < (decompress {} a out 0 budget fl).written → (decompress {} a out 0 budget fl).out[i]? = P[i]? := by
  obtain ⟨hw, hfr⟩ := decompress_resume_frame {} a b out 0 budget (budget + P.size) fl Bnd_fresh
    (badGeometry_flat T.flat (Nat.zero_le _)) hs (Nat.le_trans (Nat.le_add_right _ _) (Nat.le_add_left _ _))
  obtain ⟨_, o2, o4, _⟩ := T.fits (a ++ b) out ((decompress {} a out 0 budget fl).written + (budget + P.size)) hv
    (Nat.le_min.mpr ⟨Nat.le_trans (Nat.le_add_left _ _) (Nat.le_add_left _ _), Nat.le_trans (Nat.le_add_left _ _) hsize⟩)
  rw [o2] at hw
  exact ⟨hw, fun i hi => (hfr i (by rwa [Nat.zero_add])).symm.trans (o4 i (Nat.lt_of_lt_of_le hi hw))⟩

/-- THE RING DRIVER, WHILE ITS CALLS ARE SUSPENDED, HAS DELIVERED A PREFIX OF THE PLAINTEXT — any
    chunking, any number of laps of the window. -/
theorem ring_prefix_of_flat {flagsR flagsF W : Nat} {V : Array UInt8 → Prop} {P : Array UInt8} {L : Nat} (T : FlatTheory flagsF V P L)
    (hfl : FlagsRF flagsR flagsF) (hbig : 32768 ≤ W)
    (oR : Array UInt8) (hW : oR.size = W) (hg : badGeometry flagsR W 0 = false)
    (c : Array UInt8) (cs : List (Array UInt8)) (b : Array UInt8) (hv : V (catList (c :: cs) ++ b))
    (hsus : ∀ x ∈ runRing flagsR W {} oR 0 #[] (c :: cs), suspended x.1) :
    ∃ n, n ≤ P.size ∧ deliveredRing (runRing flagsR W {} oR 0 #[] (c :: cs)) = P.extract 0 n := by
  obtain ⟨lastR, hlast⟩ : ∃ l, (runRing flagsR W {} oR 0 #[] (c :: cs)).getLast? = some l := by
    rw [runRing]; exact ⟨_, List.getLast?_cons⟩
  obtain ⟨oF, G, hsz, hst, hdel, _⟩ := ring_vs_one_flat_call T hfl hbig oR hW hg c cs b hv
    (fun x hx => hsus x (List.dropLast_subset _ hx)) lastR hlast P.size
  have hls : suspended lastR.1 := hsus lastR (List.mem_of_getLast? hlast)
  obtain ⟨p1, p2⟩ := T.pref _ b oF G hv hsz (suspended_of_status hst.symm hls)
  refine ⟨_, p1, ?_⟩
  rw [hdel]
  have hf1 := decompress_facts {} (catList (c :: cs)) oF 0 G flagsF
  exact extract_prefix_eq _ _ _ (by rw [hf1.size]; have := hf1.room; omega) p1 p2

theorem ring_delivered_is_prefix (flagsR flagsF W : Nat) (hfl : FlagsRF flagsR flagsF) (hbig : 32768 ≤ W)
    (oR : Array UInt8) (hW : oR.size = W) (hg : badGeometry flagsR W 0 = false)
    (hz : hasFlag flagsR fParseZlib = false) (hstop : hasFlag flagsR fStopOnBlockBoundary = false)
    (c : Array UInt8) (cs : List (Array UInt8)) (b : Array UInt8) (res : Inflated)
    (hspec : inflateSpec #[] 32768 (catList (c :: cs) ++ b) 0 = .accept res)
    (hsus : ∀ x ∈ runRing flagsR W {} oR 0 #[] (c :: cs), suspended x.1) :
    ∃ n, n ≤ res.out.size ∧ deliveredRing (runRing flagsR W {} oR 0 #[] (c :: cs)) = res.out.extract 0 n :=
  ring_prefix_of_flat (rawFlatTheoryOf flagsF hfl.flat (hfl.zlib.trans hz) (hfl.stop.trans hstop) 32768 res)
    hfl hbig oR hW hg c cs b hspec hsus

end Model.Core
