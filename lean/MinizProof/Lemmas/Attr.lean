import Lean.Meta.Tactic.Simp.RegisterCommand

/-- The numbers of the decoder automaton's states (`Model.Core.sStart` …), for goals that compare states. -/
register_simp_attr state_num
