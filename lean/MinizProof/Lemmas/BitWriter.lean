/-
The bit writer keeps its invariant (`BW.Inv`: fewer than 8 bits pending, the buffer holds only those),
and a sync marker therefore ends byte-aligned on 00 00 FF FF (used by Props/C12). The one idea:
`buf ||| bits <<< n < 2 ^ (n + len)`, and dropping the `8 * ((n + len) / 8)` emitted bits leaves less
than `2 ^ ((n + len) % 8)`.
-/
import MinizProof.Model.BitWriter
namespace Model

theorem putBits_inv (w : BW) (bits len : Nat) (hw : w.Inv) (hb : bits < 2 ^ len) :
    (putBits w bits len).Inv := by
  obtain ⟨hn, hbuf⟩ := hw
  unfold putBits BW.Inv
  simp only
  refine ⟨Nat.mod_lt _ (by decide), ?_⟩
  have hacc : w.buf ||| bits <<< w.n < 2 ^ (w.n + len) := by
    apply Nat.or_lt_two_pow
    · exact Nat.lt_of_lt_of_le hbuf (Nat.pow_le_pow_right (by decide) (by omega))
    · rw [Nat.shiftLeft_eq, Nat.add_comm, Nat.pow_add]
      exact Nat.mul_lt_mul_of_pos_right hb (Nat.two_pow_pos _)
  rw [Nat.shiftRight_eq_div_pow]
  apply Nat.div_lt_of_lt_mul
  rw [← Nat.pow_add]
  have : 8 * ((w.n + len) / 8) + (w.n + len) % 8 = w.n + len := Nat.div_add_mod _ _
  rw [this]
  exact hacc

theorem padToBytes_aligned (w : BW) (hw : w.Inv) : (padToBytes w).n = 0 ∧ (padToBytes w).buf = 0 := by
  obtain ⟨hn, hbuf⟩ := hw
  unfold padToBytes
  by_cases h : w.n = 0
  · simp only [h, ne_eq, not_true_eq_false, ↓reduceIte, true_and]
    rw [h] at hbuf; simpa using hbuf
  · simp only [ne_eq, h, not_false_eq_true, ↓reduceIte]
    have hi := putBits_inv w 0 (8 - w.n) ⟨hn, hbuf⟩ (Nat.two_pow_pos _)
    have hn0 : (putBits w 0 (8 - w.n)).n = 0 := by
      unfold putBits; simp only
      have : w.n + (8 - w.n) = 8 := by omega
      rw [this]
    refine ⟨hn0, ?_⟩
    have := hi.2
    rw [hn0] at this
    simpa using this

theorem syncMarker_spec (w : BW) (hw : w.Inv) :
    (syncMarker w).n = 0 ∧ (syncMarker w).buf = 0 ∧
    ∃ pre, (syncMarker w).out = pre ++ [0, 0, 255, 255] := by
  unfold syncMarker
  have h1 := putBits_inv w 0 3 hw (by decide)
  obtain ⟨hn, hb⟩ := padToBytes_aligned _ h1
  generalize padToBytes (putBits w 0 3) = p at hn hb
  obtain ⟨o, b, n⟩ := p
  simp only at hn hb
  subst hn hb
  refine ⟨by simp [putBits], by simp [putBits], o, ?_⟩
  simp [putBits, emitBytes]

end Model
