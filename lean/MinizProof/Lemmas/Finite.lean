/-
Helpers for exhaustive facts over finite ranges: the range is traversed by `List.all`, decided in
the kernel (`decide +kernel`), and lifted to a `∀` statement by the lemmas below.
-/
namespace Fin'

def allBelow (n : Nat) (p : Nat → Bool) : Bool := (List.range n).all p

theorem allBelow_spec {n : Nat} {p : Nat → Bool} (h : allBelow n p = true) :
    ∀ i, i < n → p i = true := by
  intro i hi
  exact List.all_eq_true.mp h i (List.mem_range.mpr hi)

def allIn (l : List Int) (p : Int → Bool) : Bool := l.all p

theorem allIn_spec {l : List Int} {p : Int → Bool} (h : allIn l p = true) :
    ∀ i, i ∈ l → p i = true := by
  intro i hi
  exact List.all_eq_true.mp h i hi

/-- `p i x` for the element `x` at every position `i` of `l` (positions counted from `k`), in ONE pass:
    the kernel evaluates a pass over a long literal far faster than indexing it once per position. -/
def allAt {α : Type} (p : Nat → α → Bool) : Nat → List α → Bool
  | _, [] => true
  | k, x :: xs => p k x && allAt p (k + 1) xs

theorem allAt_spec {α : Type} {p : Nat → α → Bool} : ∀ {l : List α} {k : Nat}, allAt p k l = true →
    ∀ i x, l[i]? = some x → p (k + i) x = true := by
  intro l
  induction l with
  | nil => intro k _ i x h; simp at h
  | cons y ys ih =>
    intro k h i x hx
    simp only [allAt, Bool.and_eq_true] at h
    cases i with
    | zero => simp only [List.getElem?_cons_zero, Option.some.injEq] at hx; exact hx ▸ h.1
    | succ i =>
      have := ih h.2 i x (by simpa using hx)
      rwa [Nat.add_assoc, Nat.add_comm 1 i] at this

def intRange (lo : Int) (n : Nat) : List Int := (List.range n).map (fun i => lo + Int.ofNat i)

theorem mem_intRange {lo : Int} {n : Nat} {x : Int} (h1 : lo ≤ x) (h2 : x < lo + n) : x ∈ intRange lo n := by
  unfold intRange
  refine List.mem_map.mpr ⟨(x - lo).toNat, List.mem_range.mpr ?_, ?_⟩
  · omega
  · have : Int.ofNat (x - lo).toNat = x - lo := Int.toNat_of_nonneg (by omega)
    omega

end Fin'
