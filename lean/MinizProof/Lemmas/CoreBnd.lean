/-
What a call of the decoder model leaves in the bit buffer. The one-byte-at-a-time model pulls a
byte only when the pending read needs it, so between calls the buffer holds fewer than 8 bits
unless the call stopped starved inside a read that needs more bits than are buffered (`Hungry`), or
the stream is already doomed by an unassigned code (`Doomed`). So the give-back of read-ahead bytes
at the end of the last block and at the exit of a call never has anything to give back, and a call
on a later chunk behaves exactly like the continuation of a call on the whole input
(`Lemmas/CoreCalls`). No property statements here.
-/
import MinizProof.Lemmas.CoreShift
import MinizProof.Lemmas.CoreGrow
import MinizProof.Lemmas.ClenShallow
namespace Model.Core
open Spec

-- sealed while shape lemmas are matched against state functions (see `Lemmas/CoreBasic`)
attribute [local irreducible] readBits decodeHuff Array.instGetElem?NatLtSize

/-- the bit buffer holds nothing above its `numBits` bits -/
def B (c : Ctx) : Prop := c.r.bitBuf < 2 ^ c.r.numBits
/-- no whole byte is buffered -/
def Q (c : Ctx) : Prop := c.r.numBits < 8
/-- the code-length code is decided by 7 bits, and its lengths are 3-bit values -/
def CS (r : Regs) : Prop :=
  (∀ buf m, 7 ≤ m → decodeBuf r.clenCode buf m ≠ .short) ∧ (∀ i, r.clenLens.getD i 0 ≤ 7)
def BC (c : Ctx) : Prop := B c ∧ CS c.r

theorem B_pull {c : Ctx} (h : B c) (b : UInt8) : B (pull c b) := by
  show c.r.bitBuf ||| b.toNat <<< c.r.numBits < 2 ^ (c.r.numBits + 8)
  apply Nat.or_lt_two_pow
  · exact Nat.lt_of_lt_of_le h (Nat.pow_le_pow_right (by decide) (by omega))
  · rw [Nat.shiftLeft_eq, Nat.pow_add, Nat.mul_comm]
    exact Nat.mul_lt_mul_of_le_of_lt (Nat.le_refl _) b.toNat_lt (Nat.two_pow_pos _)

theorem B_shift {buf n k : Nat} (h : buf < 2 ^ n) (hk : k ≤ n) : buf >>> k < 2 ^ (n - k) := by
  rw [Nat.shiftRight_eq_div_pow]
  apply Nat.div_lt_of_lt_mul
  rw [← Nat.pow_add, Nat.add_sub_cancel' hk]
  exact h

theorem B_consume {c : Ctx} (h : B c) (n : Nat) (hn : n ≤ c.r.numBits) : B (consume c n) :=
  B_shift h hn

theorem bit_pull (c : Ctx) (b : UInt8) (i : Nat) (hi : i < c.r.numBits) :
    bit (pull c b).r.bitBuf i = bit c.r.bitBuf i := by
  show bit (c.r.bitBuf ||| b.toNat <<< c.r.numBits) i = bit c.r.bitBuf i
  rw [bit_eq_testBit, bit_eq_testBit, Nat.testBit_or, Nat.testBit_shiftLeft]
  have : ¬ (i ≥ c.r.numBits) := by omega
  simp only [this, decide_false, Bool.false_and, Bool.or_false]

theorem decodeBufAux_low (c : Code) (buf buf' n : Nat) (hb : ∀ i, i < n → bit buf' i = bit buf i) :
    ∀ (fuel len used code first index : Nat),
    decodeBufAux c buf' n fuel len used code first index = decodeBufAux c buf n fuel len used code first index := by
  intro fuel
  induction fuel with
  | zero => intro len used code first index; rfl
  | succ fuel ih =>
    intro len used code first index
    unfold decodeBufAux
    by_cases h1 : index ≥ c.syms.size
    · rw [if_pos h1, if_pos h1]
    · rw [if_neg h1, if_neg h1]
      by_cases h2 : used ≥ n
      · rw [if_pos h2, if_pos h2]
      · rw [if_neg h2, if_neg h2]
        have hbit : buf' >>> used % 2 = buf >>> used % 2 := hb used (by omega)
        dsimp only
        rw [hbit]
        split
        · rfl
        · exact ih _ _ _ _ _

theorem decodeBufAux_short (c : Code) (buf m : Nat) :
    ∀ (fuel len used code first index : Nat),
    decodeBufAux c buf m fuel len used code first index = .short →
    m < used + fuel ∧ ∀ n s l, m ≤ n → decodeBufAux c buf n fuel len used code first index = .sym s l → m < l := by
  intro fuel
  induction fuel with
  | zero => intro len used code first index h; cases h
  | succ fuel ih =>
    intro len used code first index h
    unfold decodeBufAux at h
    by_cases hi : index ≥ c.syms.size
    · rw [if_pos hi] at h; cases h
    · rw [if_neg hi] at h
      by_cases hu : used ≥ m
      · -- the short walk stops here; the long one finds its symbol at this level or deeper
        refine ⟨by omega, fun n s l _ h2 => ?_⟩
        have := decodeBufAux_len c buf n _ _ _ _ _ _ _ _ h2
        omega
      · rw [if_neg hu] at h
        dsimp only at h
        split at h
        · cases h
        · rename_i hlt
          obtain ⟨h1, h2⟩ := ih _ _ _ _ _ h
          refine ⟨by omega, fun n s l hmn h3 => h2 n s l hmn ?_⟩
          unfold decodeBufAux at h3
          rw [if_neg hi, if_neg (by omega)] at h3
          rw [if_neg hlt] at h3
          exact h3

theorem decodeBuf_short_bound {c : Code} {buf n : Nat} (h : decodeBuf c buf n = .short) : n < 15 := by
  have := (decodeBufAux_short c buf n _ _ _ _ _ _ h).1
  omega

theorem decodeBuf_short_sym {c : Code} {buf m n s l : Nat} (hmn : m ≤ n) (h1 : decodeBuf c buf m = .short)
    (h2 : decodeBuf c buf n = .sym s l) : m < l :=
  (decodeBufAux_short c buf m _ _ _ _ _ _ h1).2 n s l hmn h2

theorem decodeBuf_pull (code : Code) (c : Ctx) (b : UInt8) {m : Nat} (hm : m ≤ c.r.numBits) :
    decodeBuf code (pull c b).r.bitBuf m = decodeBuf code c.r.bitBuf m :=
  decodeBufAux_low code _ _ m (fun i hi => bit_pull c b i (by omega)) _ _ _ _ _ _

theorem readBits_I {inp : Array UInt8} {c : Ctx} (hle : c.inPos ≤ inp.size) (amount : Nat) (hB : B c)
    (h : c.r.numBits < amount + 8) :
    ReadOK inp c (readBits inp amount c).1 ∧ B (readBits inp amount c).1 ∧
    ((readBits inp amount c).2 = none → (readBits inp amount c).1.r.numBits < amount) ∧
    (∀ v, (readBits inp amount c).2 = some v → Q (readBits inp amount c).1 ∧ v < 2 ^ amount) := by
  obtain ⟨h1, h2, _⟩ := readBits_spec inp amount c hle
  suffices h' : B (readBits inp amount c).1 ∧ ∀ v, (readBits inp amount c).2 = some v →
      Q (readBits inp amount c).1 ∧ v < 2 ^ amount from ⟨h1, h'.1, fun hn => (h2 hn).2.1, h'.2⟩
  rw [readBits_eq]
  revert hB h
  refine pullBits_ind (P := fun c p => B c → c.r.numBits < amount + 8 →
    B p.1 ∧ ∀ v, p.2 = some v → Q p.1 ∧ v < 2 ^ amount) ?_ ?_ ?_ c
  · intro c n v hd hB hq
    obtain ⟨rfl, hn, rfl⟩ := bitsDec_some hd
    refine ⟨B_shift hB hn, fun v' hv => ⟨?_, Option.some.inj hv ▸ Nat.mod_lt _ (Nat.two_pow_pos _)⟩⟩
    show c.r.numBits - n < 8
    omega
  · intro c _ _ hB _
    exact ⟨hB, fun v hv => nomatch hv⟩
  · intro c b r hd _ ih hB _
    exact ih (B_pull hB b) (by have := bitsDec_none hd; show c.r.numBits + 8 < amount + 8; omega)

/-- What `decodeHuff` leaves: a clean buffer; starved, fewer than 8 bits or bits that hold no complete
    code; after a symbol, fewer than 8 bits, except after an unassigned pattern (symbol 286), where
    fewer than 8 bits beyond an incomplete code (or beyond nothing) may remain. -/
def HuffPost (code : Code) (p : Ctx × Option Nat) : Prop :=
  B p.1 ∧
  (p.2 = none → Q p.1 ∨ decodeBuf code p.1.r.bitBuf p.1.r.numBits = .short) ∧
  (∀ v, p.2 = some v → Q p.1 ∨
    (v = 286 ∧ ∃ m, (m = 0 ∨ ∃ buf, decodeBuf code buf m = .short) ∧ p.1.r.numBits < m + 8))

/-- Loop invariant: fewer than 8 bits are buffered, or the first `m` buffered bits hold no complete
    code and at most 8 more are buffered. -/
theorem decodeHuff_I {inp : Array UInt8} {code : Code} {c : Ctx} (hle : c.inPos ≤ inp.size) (hB : B c)
    (h : Q c ∨ decodeBuf code c.r.bitBuf c.r.numBits = .short) :
    ReadOK inp c (decodeHuff inp code c).1 ∧ HuffPost code (decodeHuff inp code c) := by
  refine ⟨(decodeHuff_spec inp code c hle).1, ?_⟩
  have h' : Q c ∨ ∃ m, m ≤ c.r.numBits ∧ (m = 0 ∨ decodeBuf code c.r.bitBuf m = .short) ∧ c.r.numBits ≤ m + 8 :=
    h.imp_right fun hs => ⟨c.r.numBits, Nat.le_refl _, .inr hs, by omega⟩
  rw [decodeHuff_eq]
  revert hB h'
  refine pullBits_ind (P := fun c p => B c →
    (Q c ∨ ∃ m, m ≤ c.r.numBits ∧ (m = 0 ∨ decodeBuf code c.r.bitBuf m = .short) ∧ c.r.numBits ≤ m + 8) →
    HuffPost code p) ?_ ?_ ?_ c
  · intro c n v hd hB h
    rcases huffDec_cases hd with hs | ⟨_, h1, rfl, rfl⟩
    · have hl := decodeBuf_len hs
      refine ⟨B_shift hB hl.2, (fun hn => nomatch hn), fun _ _ => .inl ?_⟩
      show c.r.numBits - n < 8
      rcases h with hq | ⟨m, hm1, hm2 | hm2, hm3⟩
      · unfold Q at hq; omega
      · omega
      · have := decodeBuf_short_sym hm1 hm2 hs
        omega
    · refine ⟨B_shift hB h1, (fun hn => nomatch hn), fun v hv => ?_⟩
      rcases h with hq | ⟨m, hm1, hm2, hm3⟩
      · left; show c.r.numBits - 1 < 8; unfold Q at hq; omega
      · refine .inr ⟨(Option.some.inj hv).symm, m, hm2.elim Or.inl (fun h => Or.inr ⟨_, h⟩), ?_⟩
        show c.r.numBits - 1 < m + 8
        omega
  · intro c hd _ hB _
    exact ⟨hB, fun _ => (huffDec_none hd).symm.imp_left fun h0 => by show c.r.numBits < 8; omega,
      fun v hv => nomatch hv⟩
  · -- after a pull the bits buffered before it are the incomplete prefix
    intro c b r hd _ ih hB _
    refine ih (B_pull hB b) (.inr ?_)
    have hpn : (pull c b).r.numBits = c.r.numBits + 8 := rfl
    rcases huffDec_none hd with hs | hs
    · refine ⟨c.r.numBits, by rw [hpn]; omega, Or.inr ?_, by rw [hpn]; omega⟩
      rw [decodeBuf_pull code c b (Nat.le_refl _)]; exact hs
    · exact ⟨0, Nat.zero_le _, Or.inl rfl, by rw [hpn]; omega⟩

/-- every distance symbol: base ≥ 1 and base + 2^extra − 1 ≤ 32768 -/
theorem distBase_range (d : Nat) (h : d ≤ 29) :
    1 ≤ (distBaseExtra d).1 ∧ (distBaseExtra d).1 + 2 ^ (distBaseExtra d).2 ≤ 32769 := by
  have : ∀ d, d < 30 → (decide (1 ≤ (distBaseExtra d).1 ∧ (distBaseExtra d).1 + 2 ^ (distBaseExtra d).2 ≤ 32769)) = true := by
    decide
  have := this d (by omega)
  simpa using this

def HungryBits (c : Ctx) : Prop :=
  (c.r.state = sReadExtraBitsCodeSize ∨ c.r.state = sReadExtraBitsLitlen ∨ c.r.state = sReadExtraBitsDistance) ∧
  c.r.numBits < c.r.numExtra
def HungryLit (c : Ctx) : Prop := c.r.state = sDecodeLitlen ∧ decodeBuf c.r.litCode c.r.bitBuf c.r.numBits = .short
def HungryDist (c : Ctx) : Prop := c.r.state = sDecodeDistance ∧ decodeBuf c.r.distCode c.r.bitBuf c.r.numBits = .short
def HungryClen (c : Ctx) : Prop :=
  c.r.state = sReadLitlenDistTablesCodeSize ∧ c.r.counter < c.r.tableSizes.getD 0 0 + c.r.tableSizes.getD 1 0 ∧
  decodeBuf c.r.clenCode c.r.bitBuf c.r.numBits = .short
/-- stopped starved inside a read that needs more bits than are buffered -/
def Hungry (c : Ctx) : Prop := HungryBits c ∨ HungryLit c ∨ HungryDist c ∨ HungryClen c
/-- on the way to (or in) a failure state after an unassigned literal/length or distance code -/
def Doomed (c : Ctx) : Prop :=
  ((c.r.state = sWriteSymbol ∨ c.r.state = sHuffDecodeOuterLoop1) ∧ c.r.counter = 286) ∨ sDoneForever < c.r.state
/-- after an unassigned code-length code: the pending 7-bit read removes the older bits -/
def Pend7 (c : Ctx) : Prop :=
  c.r.state = sReadExtraBitsCodeSize ∧ c.r.numExtra = 7 ∧ c.r.numBits < 15
/-- between the distance symbol and the end of the match copy, `dist` holds a DEFLATE distance -/
def DI (c : Ctx) : Prop :=
  (c.r.state = sReadExtraBitsDistance → 1 ≤ c.r.dist ∧ c.r.dist + 2 ^ c.r.numExtra ≤ 32769) ∧
  ((c.r.state = sHuffDecodeOuterLoop2 ∨ c.r.state = sWriteLenBytesToEnd) → 1 ≤ c.r.dist ∧ c.r.dist ≤ 32768)
/-- states that read whole bytes straight from the input have an empty bit buffer (and `DI`) -/
def Z (c : Ctx) : Prop :=
  ((c.r.state = sReadZlibCmf ∨ c.r.state = sReadZlibFlg ∨ c.r.state = sRawMemcpy2) → c.r.numBits = 0) ∧
  (c.r.state = sRawMemcpy1 → c.r.counter = 0 ∨ c.r.numBits = 0) ∧ DI c

/-- The buffer discipline (it does not mention the cursors, so it holds across calls as it stands). -/
def I (c : Ctx) : Prop := BC c ∧ Z c ∧ (Q c ∨ Hungry c ∨ Doomed c ∨ Pend7 c)
/-- the discipline as a predicate on the registers a call starts from -/
def Bnd (r : Regs) : Prop := I ⟨r, 0, 0⟩

theorem Bnd.toI {r : Regs} (h : Bnd r) (i p : Nat) : I ⟨r, i, p⟩ := h

variable {e : Env} {c : Ctx} {out : Array UInt8}

theorem Q.read (h : Q c) (amount : Nat) : c.r.numBits < amount + 8 := by unfold Q at h; omega

theorem I.alt (h : I c) {s : Nat} (hs : c.r.state = s) :
    Q c ∨
    ((s = sReadExtraBitsCodeSize ∨ s = sReadExtraBitsLitlen ∨ s = sReadExtraBitsDistance) ∧
      c.r.numBits < c.r.numExtra + 8) ∨
    (s = sDecodeLitlen ∧ decodeBuf c.r.litCode c.r.bitBuf c.r.numBits = .short) ∨
    (s = sDecodeDistance ∧ decodeBuf c.r.distCode c.r.bitBuf c.r.numBits = .short) ∨
    (s = sReadLitlenDistTablesCodeSize ∧ c.r.counter < c.r.tableSizes.getD 0 0 + c.r.tableSizes.getD 1 0 ∧
      decodeBuf c.r.clenCode c.r.bitBuf c.r.numBits = .short) ∨
    ((s = sWriteSymbol ∨ s = sHuffDecodeOuterLoop1) ∧ c.r.counter = 286) ∨ sDoneForever < s := by
  subst hs
  rcases h.2.2 with h | (⟨h, hlt⟩ | h | h | h) | (h | h) | ⟨h, h7, hlt⟩
  · exact .inl h
  · exact .inr (.inl ⟨h, by omega⟩)
  · exact .inr (.inr (.inl h))
  · exact .inr (.inr (.inr (.inl h)))
  · exact .inr (.inr (.inr (.inr (.inl h))))
  · exact .inr (.inr (.inr (.inr (.inr (.inl h)))))
  · exact .inr (.inr (.inr (.inr (.inr (.inr h)))))
  · exact .inr (.inl ⟨.inl h, by omega⟩)

/-- in a state that is not exceptional the invariant is `Q` -/
def ordinary (s : Nat) : Prop :=
  s ≠ sReadExtraBitsCodeSize ∧ s ≠ sReadExtraBitsLitlen ∧ s ≠ sReadExtraBitsDistance ∧ s ≠ sDecodeLitlen ∧
  s ≠ sDecodeDistance ∧ s ≠ sReadLitlenDistTablesCodeSize ∧ s ≠ sWriteSymbol ∧ s ≠ sHuffDecodeOuterLoop1 ∧
  ¬ sDoneForever < s
instance (s : Nat) : Decidable (ordinary s) := by unfold ordinary; exact inferInstance

theorem I.q (h : I c) {s : Nat} (hs : c.r.state = s) (ho : ordinary s := by decide) : Q c := by
  obtain ⟨o1, o2, o3, o4, o5, o6, o7, o8, o9⟩ := ho
  rcases h.alt hs with h | ⟨h | h | h, _⟩ | ⟨h, _⟩ | ⟨h, _⟩ | ⟨h, _⟩ | ⟨h | h, _⟩ | h
  · exact h
  all_goals contradiction

def extraState (s : Nat) : Prop := s = sReadExtraBitsCodeSize ∨ s = sReadExtraBitsLitlen ∨ s = sReadExtraBitsDistance

theorem I.bits (h : I c) {s : Nat} (hs : c.r.state = s) (hx : extraState s) : c.r.numBits < c.r.numExtra + 8 := by
  unfold extraState at hx
  rcases h.alt hs with h | ⟨_, h⟩ | ⟨h, _⟩ | ⟨h, _⟩ | ⟨h, _⟩ | ⟨h, _⟩ | h
  · exact h.read _
  · exact h
  all_goals (simp only [state_num] at *; omega)

/-- `code` is the code that state `s` decodes with (and, for the code-length code, lengths are still missing) -/
def codeAt (c : Ctx) (s : Nat) (code : Code) : Prop :=
  (s = sDecodeLitlen ∧ code = c.r.litCode) ∨ (s = sDecodeDistance ∧ code = c.r.distCode) ∨
  (s = sReadLitlenDistTablesCodeSize ∧ code = c.r.clenCode ∧
    c.r.counter < c.r.tableSizes.getD 0 0 + c.r.tableSizes.getD 1 0)

theorem I.short (h : I c) {s : Nat} {code : Code} (hs : c.r.state = s) (hc : codeAt c s code) :
    Q c ∨ decodeBuf code c.r.bitBuf c.r.numBits = .short := by
  rcases hc with ⟨rfl, rfl⟩ | ⟨rfl, rfl⟩ | ⟨rfl, rfl, _⟩
  · simpa [state_num] using h.alt hs
  · simpa [state_num] using h.alt hs
  · exact Or.imp_right And.right (by simpa [state_num] using h.alt hs)

theorem Hungry.of_short {s : Nat} {code : Code} (hs : c.r.state = s) (hc : codeAt c s code)
    (h : decodeBuf code c.r.bitBuf c.r.numBits = .short) : Hungry c := by
  rcases hc with ⟨rfl, rfl⟩ | ⟨rfl, rfl⟩ | ⟨rfl, rfl, hlt⟩
  · exact .inr (.inl ⟨hs, h⟩)
  · exact .inr (.inr (.inl ⟨hs, h⟩))
  · exact .inr (.inr (.inr ⟨hs, hlt, h⟩))

theorem Z_of {c : Ctx} (s : Nat) (hs : c.r.state = s)
    (h1 : (s = sReadZlibCmf ∨ s = sReadZlibFlg ∨ s = sRawMemcpy2) → c.r.numBits = 0)
    (h2 : s = sRawMemcpy1 → c.r.counter = 0 ∨ c.r.numBits = 0)
    (hd : s ≠ sReadExtraBitsDistance ∧ s ≠ sHuffDecodeOuterLoop2 ∧ s ≠ sWriteLenBytesToEnd := by decide) : Z c := by
  unfold Z DI; rw [hs]
  exact ⟨h1, h2, fun h => absurd h hd.1, fun h => h.elim (fun h => absurd h hd.2.1) (fun h => absurd h hd.2.2)⟩

theorem Z_dist {c : Ctx} (s : Nat) (hs : c.r.state = s)
    (h0 : s = sReadExtraBitsDistance ∨ s = sHuffDecodeOuterLoop2 ∨ s = sWriteLenBytesToEnd)
    (h3 : s = sReadExtraBitsDistance → 1 ≤ c.r.dist ∧ c.r.dist + 2 ^ c.r.numExtra ≤ 32769)
    (h4 : (s = sHuffDecodeOuterLoop2 ∨ s = sWriteLenBytesToEnd) → 1 ≤ c.r.dist ∧ c.r.dist ≤ 32768) : Z c := by
  unfold Z DI; rw [hs]
  refine ⟨fun h => ?_, fun h => ?_, h3, h4⟩
  · rcases h0 with h0 | h0 | h0 <;> rcases h with h | h | h <;> (rw [h0] at h; exact absurd h (by decide))
  · rcases h0 with h0 | h0 | h0 <;> (rw [h0] at h; exact absurd h (by decide))

/-- the states that work on the bit buffer: `Z` asks nothing of its size there -/
def bitState (s : Nat) : Prop :=
  s ≠ sReadZlibCmf ∧ s ≠ sReadZlibFlg ∧ s ≠ sRawMemcpy2 ∧ s ≠ sRawMemcpy1 ∧ s ≠ sStart
/-- plain states: `Z` asks nothing at all -/
def plain (s : Nat) : Prop :=
  bitState s ∧ s ≠ sReadExtraBitsDistance ∧ s ≠ sHuffDecodeOuterLoop2 ∧ s ≠ sWriteLenBytesToEnd
instance (s : Nat) : Decidable (bitState s) := by unfold bitState; exact inferInstance
instance (s : Nat) : Decidable (plain s) := by unfold plain; exact inferInstance

theorem Z_plain {c : Ctx} {s : Nat} (hs : c.r.state = s) (hp : plain s) : Z c := by
  obtain ⟨⟨b1, b2, b3, b4, _⟩, hd⟩ := hp
  exact Z_of s hs (fun h => by rcases h with h | h | h <;> contradiction) (fun h => absurd h b4) hd

theorem Z.read {inp : Array UInt8} {c c1 : Ctx} {s : Nat} (hz : Z c) (h : ReadOK inp c c1) (hs : c.r.state = s)
    (hb : bitState s) : Z c1 := by
  obtain ⟨b1, b2, b3, b4, _⟩ := hb
  have hd := hz.2.2
  unfold Z DI at *
  rw [h.regs]
  refine ⟨fun h' => ?_, fun h' => ?_, hd⟩
  · rw [show c.r.state = s from hs] at h'; rcases h' with h' | h' | h' <;> contradiction
  · exact absurd (hs.symm.trans h') b4

/-- the discipline, in a context that has left the `Start` state (no transition leads back to it) -/
def I' (c : Ctx) : Prop := I c ∧ c.r.state ≠ sStart

theorem I'.ofZ (s : Nat) (hs : c.r.state = s) (hB : BC c) (hZ : Z c) (hQ : Q c) (hns : s ≠ sStart := by decide) :
    I' c :=
  ⟨⟨hB, hZ, .inl hQ⟩, hs ▸ hns⟩

theorem I'.plain (s : Nat) (hs : c.r.state = s) (hB : BC c) (h : Q c ∨ Hungry c ∨ Doomed c ∨ Pend7 c)
    (hp : plain s := by decide) : I' c :=
  ⟨⟨hB, Z_plain hs hp, h⟩, hs ▸ hp.1.2.2.2.2⟩

theorem I_plain (s : Nat) (hs : c.r.state = s) (hB : BC c) (hQ : Q c) (hp : plain s := by decide) : I' c :=
  I'.plain s hs hB (.inl hQ) hp

/-- What a run leaves behind: the buffer is clean; a starved stop leaves fewer than 8 bits or
    a hungry read; every other stop leaves fewer than 8 bits, or a failure state. -/
def RunI (e : Env) (st : Int) (c' : Ctx) : Prop :=
  (BC c' ∧ Z c' ∧ ((st = e.eoi ∧ (Q c' ∨ Hungry c')) ∨ (st ≠ e.eoi ∧ (Q c' ∨ st = stFailed)))) ∧
  c'.r.state ≠ sStart

theorem RunI.starve {s : Nat} (hs : c.r.state = s) (hB : BC c) (hZ : Z c) (h : Q c ∨ Hungry c)
    (hns : s ≠ sStart := by decide) : RunI e e.eoi c :=
  ⟨⟨hB, hZ, .inl ⟨rfl, h⟩⟩, hs ▸ hns⟩

theorem RunI.stop {s : Nat} {st : Int} (hs : c.r.state = s) (hst : st ≠ e.eoi) (hB : BC c) (hZ : Z c) (hQ : Q c)
    (hns : s ≠ sStart := by decide) : RunI e st c :=
  ⟨⟨hB, hZ, .inr ⟨hst, .inl hQ⟩⟩, hs ▸ hns⟩

/-- a stop that is not a failure gives nothing back at the exit of the call -/
theorem RunI.undo {st : Int} (h : RunI e st c) (hF : st ≠ stFailed) : st = e.eoi ∨ Q c := by
  rcases h.1.2.2 with ⟨he, _⟩ | ⟨_, h⟩
  · exact .inl he
  · exact .inr (h.resolve_right hF)

theorem RunI.bnd {st : Int} (h : RunI e st c) (hst : st = e.eoi ∨ st = stHasMoreOutput) (x : Nat) :
    Bnd { c.r with checkAdler32 := x } := by
  refine ⟨h.1.1, h.1.2.1, ?_⟩
  rcases h.1.2.2 with ⟨_, hd⟩ | ⟨hne, hd⟩
  · exact hd.elim .inl fun h => .inr (.inl h)
  · rcases hst with hst | hst
    · exact absurd hst hne
    · exact .inl (hd.resolve_right (hst ▸ by decide))

def StepI (e : Env) : Step → Prop
  | .cont c' _ => I' c'
  | .fin st c' _ => RunI e st c'

theorem BC.of_read {inp : Array UInt8} {c c1 : Ctx} (h : ReadOK inp c c1) (hc : BC c) (hB : B c1) : BC c1 := by
  refine ⟨hB, ?_⟩
  rw [h.regs]
  exact hc.2

theorem starved_bits {inp : Array UInt8} {c c1 : Ctx} {s amount : Nat} (h : ReadOK inp c c1) (hs : c.r.state = s)
    (ha : amount ≤ 8 ∨ (extraState s ∧ amount = c.r.numExtra)) (hlt : c1.r.numBits < amount) :
    Q c1 ∨ Hungry c1 := by
  rcases ha with ha | ⟨hx, ha⟩
  · exact .inl (Nat.lt_of_lt_of_le hlt ha)
  · refine .inr (.inl ⟨?_, ?_⟩)
    · rw [h.state, hs]; exact hx
    · have : c1.r.numExtra = c.r.numExtra := by rw [h.regs]
      omega

theorem readBits_stepI {s : Nat} (hs : c.r.state = s) (hle : c.inPos ≤ e.inp.size) (hI : I c)
    (amount : Nat) (hq : c.r.numBits < amount + 8) (ha : amount ≤ 8 ∨ (extraState s ∧ amount = c.r.numExtra))
    (k : Ctx → Nat → Step)
    (hk : ∀ c1 v, ReadOK e.inp c c1 → BC c1 → Q c1 → v < 2 ^ amount → StepI e (k c1 v))
    (hb : bitState s := by decide) :
    StepI e (match readBits e.inp amount c with
      | (c1, none) => .fin e.eoi c1 out
      | (c1, some v) => k c1 v) := by
  obtain ⟨h1, h2, h3, h4⟩ := readBits_I (inp := e.inp) hle amount hI.1.1 hq
  generalize readBits e.inp amount c = p at *
  obtain ⟨c1, o⟩ := p
  cases o with
  | none =>
    exact RunI.starve (h1.state.trans hs) (BC.of_read h1 hI.1 h2) (hI.2.1.read h1 hs hb)
      (starved_bits h1 hs ha (h3 rfl)) hb.2.2.2.2
  | some v => exact hk c1 v h1 (BC.of_read h1 hI.1 h2) (h4 v rfl).1 (h4 v rfl).2

theorem codeAt.read {inp : Array UInt8} {c c1 : Ctx} {s : Nat} {code : Code} (hc : codeAt c s code)
    (h : ReadOK inp c c1) : codeAt c1 s code := by
  unfold codeAt; rw [h.regs]; exact hc

theorem decodeHuff_stepI {s : Nat} (hs : c.r.state = s) (hle : c.inPos ≤ e.inp.size) (hI : I c)
    (code : Code) (hc : codeAt c s code) (k : Ctx → Nat → Step)
    (hk : ∀ c1 v, ReadOK e.inp c c1 → BC c1 →
      (Q c1 ∨ (v = 286 ∧ ∃ m, (m = 0 ∨ ∃ buf, decodeBuf code buf m = .short) ∧ c1.r.numBits < m + 8)) →
      StepI e (k c1 v))
    (hb : bitState s := by decide) :
    StepI e (match decodeHuff e.inp code c with
      | (c1, none) => .fin e.eoi c1 out
      | (c1, some v) => k c1 v) := by
  obtain ⟨h1, h2, h3, h4⟩ := decodeHuff_I (inp := e.inp) (code := code) hle hI.1.1 (hI.short hs hc)
  generalize decodeHuff e.inp code c = p at *
  obtain ⟨c1, o⟩ := p
  cases o with
  | none =>
    exact RunI.starve (h1.state.trans hs) (BC.of_read h1 hI.1 h2) (hI.2.1.read h1 hs hb)
      ((h3 rfl).imp_right (Hungry.of_short (h1.state.trans hs) (hc.read h1))) hb.2.2.2.2
  | some v => exact hk c1 v h1 (BC.of_read h1 hI.1 h2) (h4 v rfl)

theorem readByte_stepI {s : Nat} (hs : c.r.state = s) (hI : I c) (hQ : Q c) (k : UInt8 → Step)
    (hk : ∀ b, StepI e (k b)) (hns : s ≠ sStart := by decide) :
    StepI e (match e.inp[c.inPos]? with
      | none => .fin e.eoi c out
      | some b => k b) := by
  cases e.inp[c.inPos]? with
  | none => exact RunI.starve hs hI.1 hI.2.1 (.inl hQ) hns
  | some b => exact hk b

theorem initTree_I {c : Ctx} (hB : BC c) (hQ : Q c) (l d : Array Nat) : I' (initTree c l d) := by
  refine iteInduction (fun _ => iteInduction (fun _ => ?_) fun _ => ?_) fun _ =>
    iteInduction (fun _ => ?_) fun _ => iteInduction (fun _ => ?_) fun _ => ?_
  · exact I_plain sReadLitlenDistTablesCodeSize rfl
      ⟨hB.1, ⟨fun buf m hm => decodeBuf_shallow _ hB.2.2 buf m hm, hB.2.2⟩⟩ hQ
  · exact I_plain sBadTotalSymbols rfl hB hQ
  · exact I_plain sBadTotalSymbols rfl hB hQ
  · exact I_plain sBadTotalSymbols rfl hB hQ
  · exact I_plain sDecodeLitlen rfl hB hQ

theorem stStart_I (hC : CS c.r) : StepI e (stStart e c out) := by
  unfold stStart
  have hB0 : (0 : Nat) < 2 ^ 0 := by decide
  have hQ0 : (0 : Nat) < 8 := by decide
  split
  · exact I'.ofZ sReadZlibCmf rfl ⟨hB0, hC⟩ (Z_of sReadZlibCmf rfl (fun _ => rfl) (fun h => absurd h (by decide))) hQ0
  · exact I_plain sReadBlockHeader rfl ⟨hB0, hC⟩ hQ0

theorem stReadZlibCmf_I (hs : c.r.state = sReadZlibCmf) (hI : I c) : StepI e (stReadZlibCmf e c out) := by
  have hz : c.r.numBits = 0 := hI.2.1.1 (.inl hs)
  have hQ : Q c := by unfold Q; omega
  refine readByte_stepI hs hI hQ _ fun b => ?_
  exact I'.ofZ sReadZlibFlg rfl hI.1 (Z_of sReadZlibFlg rfl (fun _ => hz) (fun h => absurd h (by decide))) hQ

theorem stReadZlibFlg_I (hs : c.r.state = sReadZlibFlg) (hI : I c) : StepI e (stReadZlibFlg e c out) := by
  have hz : c.r.numBits = 0 := hI.2.1.1 (.inr (.inl hs))
  have hQ : Q c := by unfold Q; omega
  refine readByte_stepI hs hI hQ _ fun b => ?_
  dsimp only
  split
  · exact I_plain sBadZlibHeader rfl hI.1 hQ
  · exact I_plain sReadBlockHeader rfl hI.1 hQ

theorem stReadBlockHeader_I (hle : c.inPos ≤ e.inp.size) (hs : c.r.state = sReadBlockHeader) (hI : I c) :
    StepI e (stReadBlockHeader e c out) := by
  refine readBits_stepI hs hle hI 3 ((hI.q hs).read 3) (.inl (by decide)) _
    fun c1 v h1 hB hQ _ => ?_
  refine iteInduction (fun _ => ?_) fun _ => iteInduction (fun _ => ?_) fun _ => iteInduction (fun _ => ?_) fun _ => ?_
  · exact I_plain sBlockTypeNoCompression rfl hB hQ
  · exact initTree_I (c := _) (by exact hB) (by exact hQ) _ _
  · exact I_plain sReadTableSizes rfl hB hQ
  · exact I_plain sBlockTypeUnexpected rfl hB hQ

theorem stRawHeader_I (hle : c.inPos ≤ e.inp.size) (hs : c.r.state = sRawHeader) (hI : I c) :
    StepI e (stRawHeader e c out) := by
  have hQ := hI.q hs
  refine iteInduction (fun _ => iteInduction (fun _ => ?_) fun _ => ?_) fun _ =>
    iteInduction (fun _ => ?_) fun _ => iteInduction (fun _ => ?_) fun _ => iteInduction (fun _ => ?_) fun h0 => ?_
  · refine readBits_stepI hs hle hI 8 (hQ.read 8) (.inl (Nat.le_refl 8)) _ fun c1 v h1 hB hQ1 _ => ?_
    exact I_plain sRawHeader (h1.state.trans hs) hB hQ1
  · refine readByte_stepI hs hI hQ _ fun b => ?_
    exact I_plain sRawHeader hs hI.1 hQ
  · exact I_plain sBadRawLength rfl hI.1 hQ
  · exact I_plain sBlockDone rfl hI.1 hQ
  · exact I_plain sRawReadFirstByte rfl hI.1 hQ
  · exact I'.ofZ sRawMemcpy1 rfl hI.1 (Z_of sRawMemcpy1 rfl (fun h => absurd h (by decide))
      (fun _ => .inr (by show c.r.numBits = 0; omega))) hQ

theorem stRawStoreFirstByte_I (hs : c.r.state = sRawStoreFirstByte) (hI : I c) :
    StepI e (stRawStoreFirstByte e c out) := by
  have hQ := hI.q hs
  refine iteInduction (fun _ => ?_) fun _ => iteInduction (fun h0 => ?_) fun _ => ?_
  · exact RunI.stop hs (hmo_ne_eoi e) hI.1 hI.2.1 hQ
  · exact I'.ofZ sRawMemcpy1 rfl hI.1 (Z_of sRawMemcpy1 rfl (fun h => absurd h (by decide)) (fun _ => h0)) hQ
  · exact I_plain sRawReadFirstByte rfl hI.1 hQ

theorem stRawMemcpy1_I (hs : c.r.state = sRawMemcpy1) (hI : I c) : StepI e (stRawMemcpy1 e c out) := by
  have hQ := hI.q hs
  refine iteInduction (fun _ => ?_) fun hc => iteInduction (fun _ => ?_) fun _ => ?_
  · exact I_plain sBlockDone rfl hI.1 hQ
  · exact RunI.stop hs (hmo_ne_eoi e) hI.1 hI.2.1 hQ
  · exact I'.ofZ sRawMemcpy2 rfl hI.1
      (Z_of sRawMemcpy2 rfl (fun _ => (hI.2.1.2.1 hs).resolve_left hc) (fun h => absurd h (by decide))) hQ

theorem stRawMemcpy2_I (hs : c.r.state = sRawMemcpy2) (hI : I c) : StepI e (stRawMemcpy2 e c out) := by
  have hz : c.r.numBits = 0 := hI.2.1.1 (.inr (.inr hs))
  have hQ : Q c := by unfold Q; omega
  refine iteInduction (fun _ => ?_) fun _ => ?_
  · exact I'.ofZ sRawMemcpy1 rfl hI.1 (Z_of sRawMemcpy1 rfl (fun h => absurd h (by decide)) (fun _ => .inr hz)) hQ
  · exact RunI.starve hs hI.1 hI.2.1 (.inl hQ)

theorem getD_setIfInBounds_le {a : Array Nat} {j v b : Nat} (ha : ∀ i, a.getD i 0 ≤ b) (hv : v ≤ b) (i : Nat) :
    (a.setIfInBounds j v).getD i 0 ≤ b := by
  have := ha i
  simp only [Array.getD_eq_getD_getElem?] at this ⊢
  rw [Array.getElem?_setIfInBounds]
  split
  · split <;> simp <;> omega
  · exact this

theorem getD_replicate_le (n v i : Nat) : (Array.replicate n v).getD i 0 ≤ v := by
  simp only [Array.getD_eq_getD_getElem?, Array.getElem?_replicate]
  split <;> simp

theorem stReadTableSizes_I (hle : c.inPos ≤ e.inp.size) (hs : c.r.state = sReadTableSizes) (hI : I c) :
    StepI e (stReadTableSizes e c out) := by
  have hQ := hI.q hs
  unfold stReadTableSizes
  refine iteInduction (fun h3 => ?_) fun _ => ?_
  · have hamt : ([5, 5, 4] : List Nat).getD c.r.counter 0 ≤ 8 := by
      have : c.r.counter = 0 ∨ c.r.counter = 1 ∨ c.r.counter = 2 := by omega
      rcases this with h | h | h <;> rw [h] <;> decide
    refine readBits_stepI hs hle hI _ (hQ.read _) (.inl hamt) _ fun c1 v h1 hB hQ1 _ => ?_
    exact I_plain sReadTableSizes (h1.state.trans hs) hB hQ1
  · have hB' : BC { c with r := { c.r with clenLens := Array.replicate 19 0, counter := 0 } } :=
      ⟨hI.1.1, hI.1.2.1, fun i => Nat.le_trans (getD_replicate_le 19 0 i) (Nat.zero_le 7)⟩
    refine iteInduction (fun _ => ?_) fun _ => ?_
    · exact I_plain sReadHufflenTableCodeSize rfl hB' hQ
    · exact I_plain sBadDistOrLiteralTableLength rfl hB' hQ

theorem stReadHufflenTableCodeSize_I (hle : c.inPos ≤ e.inp.size) (hs : c.r.state = sReadHufflenTableCodeSize)
    (hI : I c) : StepI e (stReadHufflenTableCodeSize e c out) := by
  have hQ := hI.q hs
  unfold stReadHufflenTableCodeSize
  refine iteInduction (fun _ => ?_) fun _ => ?_
  · refine readBits_stepI hs hle hI 3 (hQ.read 3) (.inl (by decide)) _ fun c1 v h1 hB hQ1 hv => ?_
    refine I_plain sReadHufflenTableCodeSize (h1.state.trans hs) ⟨hB.1, ⟨hB.2.1, ?_⟩⟩ hQ1
    exact getD_setIfInBounds_le hB.2.2 (by have : (2 : Nat) ^ 3 = 8 := rfl; omega)
  · exact initTree_I (c := _) (by exact hI.1) (by exact hQ) _ _

theorem stReadLitlenDistTablesCodeSize_I (hle : c.inPos ≤ e.inp.size)
    (hs : c.r.state = sReadLitlenDistTablesCodeSize) (hI : I c) :
    StepI e (stReadLitlenDistTablesCodeSize e c out) := by
  unfold stReadLitlenDistTablesCodeSize
  refine iteInduction (fun hlt => ?_) fun hge => ?_
  · refine decodeHuff_stepI hs hle hI _ (.inr (.inr ⟨rfl, rfl, hlt⟩)) _ fun c1 v h1 hB hv => ?_
    refine iteInduction (fun _ => ?_) fun _ => iteInduction (fun _ => ?_) fun _ => ?_
    · exact I_plain sReadLitlenDistTablesCodeSize (h1.state.trans hs) hB (hv.elim id fun h => by omega)
    · exact I_plain sBadCodeSizeDistPrevLookup rfl hB (hv.elim id fun h => by omega)
    · rcases hv with hQ1 | ⟨hv, m, hm, hlt15⟩
      · exact I_plain sReadExtraBitsCodeSize rfl hB hQ1
      · -- the code-length code is decided by 7 bits: fewer than 7 + 8 bits are left
        have hm6 : m ≤ 6 := by
          rcases hm with hm | ⟨buf, hm⟩
          · omega
          · exact Nat.le_of_lt_succ (Nat.lt_of_not_le fun h7 => hI.1.2.1 buf m h7 hm)
        exact I'.plain sReadExtraBitsCodeSize rfl hB
          (.inr (.inr (.inr ⟨rfl, by subst hv; rfl, by show c1.r.numBits < 15; omega⟩)))
  · have hQ : Q c := by simpa [state_num, hge, -Array.getD_eq_getD_getElem?] using hI.alt hs
    refine iteInduction (fun _ => ?_) fun _ => ?_
    · exact I_plain sBadCodeSizeSum rfl hI.1 hQ
    · exact initTree_I (c := _) (by exact hI.1) (by exact hQ) _ _

theorem stReadExtraBitsDistance_I (hle : c.inPos ≤ e.inp.size) (hs : c.r.state = sReadExtraBitsDistance) (hI : I c) :
    StepI e (stReadExtraBitsDistance e c out) := by
  have hdi := hI.2.1.2.2.1 hs
  refine readBits_stepI hs hle hI _ (hI.bits hs (.inr (.inr rfl))) (.inr ⟨.inr (.inr rfl), rfl⟩) _
    fun c1 v h1 hB hQ1 hv => ?_
  have hreg : c1.r.dist = c.r.dist := by rw [h1.regs]
  refine I'.ofZ sHuffDecodeOuterLoop2 rfl hB
    (Z_dist sHuffDecodeOuterLoop2 rfl (.inr (.inl rfl)) (fun h => absurd h (by decide)) fun _ => ?_) hQ1
  show 1 ≤ c1.r.dist + v ∧ c1.r.dist + v ≤ 32768
  omega

theorem stWriteSymbol_I (hs : c.r.state = sWriteSymbol) (hI : I c) : StepI e (stWriteSymbol e c out) := by
  have h : Q c ∨ c.r.counter = 286 := by simpa [state_num] using hI.alt hs
  refine iteInduction (fun _ => ?_) fun _ => ?_
  · exact I'.plain sHuffDecodeOuterLoop1 rfl hI.1 (h.imp_right fun h => .inr (.inl (.inl ⟨.inr rfl, h⟩)))
  · have hQ : Q c := h.elim id fun h => by omega
    refine iteInduction (fun _ => ?_) fun _ => ?_
    · exact I_plain sDecodeLitlen rfl hI.1 hQ
    · exact RunI.stop hs (hmo_ne_eoi e) hI.1 hI.2.1 hQ

theorem stHuffDecodeOuterLoop1_I (hs : c.r.state = sHuffDecodeOuterLoop1) (hI : I c) :
    StepI e (stHuffDecodeOuterLoop1 e c out) := by
  have h : Q c ∨ c.r.counter = 286 := by simpa [state_num] using hI.alt hs
  refine iteInduction (fun _ => ?_) fun _ => iteInduction (fun _ => ?_) fun _ => ?_
  · exact I_plain sBlockDone rfl hI.1 (h.elim id fun h => by omega)
  · exact I'.plain sInvalidLitlen rfl hI.1
      (.inr (.inr (.inl (.inr (by decide : sDoneForever < sInvalidLitlen)))))
  · have hQ : Q c := h.elim id fun h => by omega
    dsimp only
    split
    · exact I_plain sReadExtraBitsLitlen rfl hI.1 hQ
    · exact I_plain sDecodeDistance rfl hI.1 hQ

theorem stDecodeDistance_I (hle : c.inPos ≤ e.inp.size) (hs : c.r.state = sDecodeDistance) (hI : I c) :
    StepI e (stDecodeDistance e c out) := by
  refine decodeHuff_stepI hs hle hI _ (.inr (.inl ⟨rfl, rfl⟩)) _ fun c1 v h1 hB hv => ?_
  dsimp only
  split
  · exact I'.plain sInvalidDist rfl hB (.inr (.inr (.inl (.inr (by decide : sDoneForever < sInvalidDist)))))
  · have hQ1 : Q c1 := hv.elim id fun h => by omega
    have htab := distBase_range v (by omega)
    split
    · exact I'.ofZ sReadExtraBitsDistance rfl hB (Z_dist sReadExtraBitsDistance rfl (.inl rfl) (fun _ => htab)
        (fun h => h.elim (fun h => absurd h (by decide)) (fun h => absurd h (by decide)))) hQ1
    · rename_i h0
      have h0' : (distBaseExtra v).2 = 0 := by simpa using h0
      refine I'.ofZ sHuffDecodeOuterLoop2 rfl hB
        (Z_dist sHuffDecodeOuterLoop2 rfl (.inr (.inl rfl)) (fun h => absurd h (by decide)) fun _ => ?_) hQ1
      show 1 ≤ (distBaseExtra v).1 ∧ (distBaseExtra v).1 ≤ 32768
      rw [h0'] at htab
      omega

theorem stMatch_I (hs : c.r.state = sHuffDecodeOuterLoop2 ∨ c.r.state = sWriteLenBytesToEnd) (hI : I c) :
    StepI e (stMatch e c out) := by
  have hQ : Q c := hs.elim (fun hs => hI.q hs) (fun hs => hI.q hs)
  have hZ : ∀ c' : Ctx, c'.r.state = sWriteLenBytesToEnd → c'.r.dist = c.r.dist → Z c' := fun c' h1 h2 =>
    Z_dist _ h1 (.inr (.inr rfl)) (fun h => absurd h (by decide)) (fun _ => h2 ▸ hI.2.1.2.2.2 hs)
  rw [stMatch_eq]
  refine iteInduction (fun _ => ?_) fun _ => iteInduction (fun _ => ?_) fun _ => iteInduction (fun _ => ?_) fun _ => ?_
  · exact I_plain sDistanceOutOfBounds rfl hI.1 hQ
  · exact I_plain sDecodeLitlen rfl hI.1 hQ
  · exact RunI.stop (s := sWriteLenBytesToEnd) rfl (hmo_ne_eoi e) hI.1 (hZ _ rfl rfl) hQ
  · unfold matchNext
    split
    · exact I_plain sDecodeLitlen rfl hI.1 hQ
    · exact I'.ofZ sWriteLenBytesToEnd rfl hI.1 (hZ _ rfl rfl) hQ

theorem stBlockDone_I (hs : c.r.state = sBlockDone) (hI : I c) : StepI e (stBlockDone e c out) := by
  have hQ := hI.q hs
  refine iteInduction (fun _ => ?_) fun _ => ?_
  · have hB' : ∀ (x nb' : Nat), x % 2 ^ nb' < 2 ^ nb' := fun x nb' => Nat.mod_lt _ (Nat.two_pow_pos _)
    have hQ' : (c.r.numBits - c.r.numBits % 8) - 8 * min ((c.r.numBits - c.r.numBits % 8) / 8) c.inPos < 8 := by
      unfold Q at hQ; omega
    refine iteInduction (fun _ => ?_) fun _ => ?_
    · exact I_plain sReadAdler32 rfl ⟨hB' _ _, hI.1.2⟩ hQ'
    · exact I_plain sDoneForever rfl ⟨hB' _ _, hI.1.2⟩ hQ'
  · refine iteInduction (fun _ => ?_) fun _ => ?_
    · exact RunI.stop hs (bb_ne_eoi e) hI.1 hI.2.1 hQ
    · exact I_plain sReadBlockHeader rfl hI.1 hQ

theorem stReadAdler32_I (hle : c.inPos ≤ e.inp.size) (hs : c.r.state = sReadAdler32) (hI : I c) :
    StepI e (stReadAdler32 e c out) := by
  have hQ := hI.q hs
  refine iteInduction (fun _ => iteInduction (fun _ => ?_) fun _ => ?_) fun _ => ?_
  · refine readBits_stepI hs hle hI 8 (hQ.read 8) (.inl (Nat.le_refl 8)) _ fun c1 v h1 hB hQ1 _ => ?_
    exact I_plain sReadAdler32 (h1.state.trans hs) hB hQ1
  · refine readByte_stepI hs hI hQ _ fun b => ?_
    exact I_plain sReadAdler32 hs hI.1 hQ
  · exact I_plain sDoneForever rfl hI.1 hQ

theorem step_I (g : Geo e c out) (hI : I c) : StepI e (step e c out) := by
  have hle := g.inLe
  exact stepAt_cases (P := fun s f => c.r.state = s → StepI e (f e c out))
    (hStart := fun _ => stStart_I hI.1.2)
    (hZlibCmf := (stReadZlibCmf_I · hI))
    (hZlibFlg := (stReadZlibFlg_I · hI))
    (hBlockHeader := (stReadBlockHeader_I hle · hI))
    (hNoCompression := fun hs => readBits_stepI hs hle hI _ ((hI.q hs).read _) (.inl (by omega)) _
      fun _ _ _ hB hQ _ => I_plain sRawHeader rfl hB hQ)
    (hRawHeader := (stRawHeader_I hle · hI))
    (hRawReadFirstByte := fun hs => readBits_stepI hs hle hI 8 ((hI.q hs).read 8) (.inl (Nat.le_refl 8)) _
      fun _ _ _ hB hQ _ => I_plain sRawStoreFirstByte rfl hB hQ)
    (hRawStoreFirstByte := (stRawStoreFirstByte_I · hI))
    (hRawMemcpy1 := (stRawMemcpy1_I · hI))
    (hRawMemcpy2 := (stRawMemcpy2_I · hI))
    (hTableSizes := (stReadTableSizes_I hle · hI))
    (hHufflen := (stReadHufflenTableCodeSize_I hle · hI))
    (hLitlenDist := (stReadLitlenDistTablesCodeSize_I hle · hI))
    (hExtraCodeSize := fun hs => readBits_stepI hs hle hI _ (hI.bits hs (.inl rfl)) (.inr ⟨.inl rfl, rfl⟩) _
      fun _ _ _ hB hQ _ => I_plain sReadLitlenDistTablesCodeSize rfl hB hQ)
    (hDecodeLitlen := fun hs => decodeHuff_stepI hs hle hI _ (.inl ⟨rfl, rfl⟩) _ fun _ _ _ hB hv =>
      I'.plain sWriteSymbol rfl hB (hv.imp_right fun h => .inr (.inl (.inl ⟨.inl rfl, h.1⟩))))
    (hWriteSymbol := (stWriteSymbol_I · hI))
    (hOuterLoop1 := (stHuffDecodeOuterLoop1_I · hI))
    (hExtraLitlen := fun hs => readBits_stepI hs hle hI _ (hI.bits hs (.inr (.inl rfl)))
      (.inr ⟨.inr (.inl rfl), rfl⟩) _ fun _ _ _ hB hQ _ => I_plain sDecodeDistance rfl hB hQ)
    (hDecodeDistance := (stDecodeDistance_I hle · hI))
    (hExtraDistance := (stReadExtraBitsDistance_I hle · hI))
    (hOuterLoop2 := fun hs => stMatch_I (.inl hs) hI)
    (hWriteLenBytes := fun hs => stMatch_I (.inr hs) hI)
    (hBlockDone := (stBlockDone_I · hI))
    (hAdler32 := (stReadAdler32_I hle · hI))
    (hDone := fun hs => RunI.stop hs (done_ne_eoi e) hI.1 hI.2.1 (hI.q hs))
    (hFailed := fun s hF hs => ⟨⟨hI.1, hI.2.1, .inr ⟨failed_ne_eoi e, .inr rfl⟩⟩,
      fun h => absurd (hs.symm.trans h ▸ hF) (by decide)⟩)
    c.r.state rfl

theorem run_I (e : Env) : ∀ (f : Nat) (c : Ctx) (out : Array UInt8), Geo e c out → I c →
    ∀ st c' out', run e f c out = (st, c', out') → st ≠ stModelError → RunI e st c' := by
  intro f
  induction f with
  | zero =>
    intro c out _ _ st c' out' h hne
    rw [run] at h
    simp only [Prod.mk.injEq] at h
    exact absurd h.1.symm hne
  | succ f ih =>
    intro c out g hI st c' out' h hne
    have hok := step_ok g
    have hsi := step_I g hI
    rw [run] at h
    cases hst : step e c out with
    | cont c1 o1 =>
      rw [hst] at h hok hsi
      exact ih c1 o1 hok.geo hsi.1 st c' out' h hne
    | fin st1 c1 o1 =>
      rw [hst] at h hsi
      simp only [Prod.mk.injEq] at h
      obtain ⟨h1, h2, _⟩ := h
      rw [← h1, ← h2]
      exact hsi

end Model.Core
