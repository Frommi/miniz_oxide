/-
Theorems about the staging model `Model.DeflOut` (helper lemmas and the statements Props/C02 restates
for properties C02 and C14): bounds, conservation of bytes, exclusivity of staging, status. Every
path of `compress_inner` past the usage guard ends in `flush_output_buffer`, so one lemma about that
tail (`flushOut_call`) gives the whole per-call contract `CallSpec`; histories are an induction over it.
-/
import MinizProof.Model.DeflOut
namespace Model.DeflOut

theorem flushOne_concat (outLen ofs : Nat) (b : List UInt8) :
    (flushOne outLen ofs b).1 ++ (flushOne outLen ofs b).2 = b := by
  unfold flushOne; split
  · simp
  · simp

theorem flushOne_len (outLen ofs : Nat) (b : List UInt8) (hb : b.length ≤ OUT_BUF_SIZE) (ho : ofs ≤ outLen) :
    ofs + (flushOne outLen ofs b).1.length ≤ outLen := by
  unfold flushOne; split
  · simp only; omega
  · simp only [List.length_take]; omega

/-- bytes delivered by the engine body fit behind `ofs`; together with what stays pending they are
    exactly the blocks that were flushed, in order -/
theorem stageBlocks_spec (outLen : Nat) : ∀ (bs : List (List UInt8)) (ofs : Nat),
    (∀ b ∈ bs, b.length ≤ OUT_BUF_SIZE) → ofs ≤ outLen →
    ofs + (stageBlocks outLen ofs bs).1.length ≤ outLen ∧
    (stageBlocks outLen ofs bs).1 ++ (stageBlocks outLen ofs bs).2.1 = (bs.take (stageBlocks outLen ofs bs).2.2).flatten ∧
    (stageBlocks outLen ofs bs).2.2 ≤ bs.length := by
  intro bs
  induction bs with
  | nil => intro ofs _ ho; simp [stageBlocks]; exact ho
  | cons b bs ih =>
    intro ofs hb ho
    have h1 := flushOne_len outLen ofs b (hb b (List.mem_cons_self ..)) ho
    have h2 := flushOne_concat outLen ofs b
    unfold stageBlocks
    generalize flushOne outLen ofs b = q at h1 h2
    obtain ⟨d, p⟩ := q
    simp only at h1 h2 ⊢
    by_cases hp : p ≠ []
    · simp only [hp, ne_eq, not_false_eq_true, ↓reduceIte]
      refine ⟨h1, by simp [h2], by simp⟩
    · simp only [hp, ↓reduceIte]
      have hp' : p = [] := by simpa using hp
      have := ih (ofs + d.length) (fun x hx => hb x (List.mem_cons_of_mem _ hx)) h1
      generalize stageBlocks outLen (ofs + d.length) bs = q2 at this
      obtain ⟨d', p', k⟩ := q2
      simp only at this ⊢
      refine ⟨by simp; omega, ?_, by simp; omega⟩
      rw [List.take_succ_cons, List.flatten_cons, ← this.2.1, ← h2, hp']
      simp

theorem flushOut_spec (s : Stage) (outLen ofs : Nat) (ho : ofs ≤ outLen) :
    let r := flushOut s outLen ofs
    ofs + r.2.2.length ≤ outLen ∧ r.2.2 ++ r.1.pending = s.pending ∧ r.1.finished = s.finished ∧
    r.1.lastFlush = s.lastFlush ∧ r.1.prev = r.2.1 ∧
    (r.2.1 = stDone ↔ (r.1.finished = true ∧ r.1.pending = [])) ∧ (r.2.1 = stDone ∨ r.2.1 = stOkay) := by
  unfold flushOut
  dsimp only
  refine ⟨?_, ?_, rfl, rfl, rfl, ?_, ?_⟩
  · rw [List.length_take]; omega
  · exact List.take_append_drop _ _
  · by_cases h : (s.finished && (List.drop (min (outLen - ofs) s.pending.length) s.pending).isEmpty) = true
    · rw [if_pos h]
      simp only [true_iff]
      simpa using h
    · rw [if_neg h]
      constructor
      · intro hh; simp [stOkay, stDone] at hh
      · intro hh; exfalso; apply h; simpa using hh
  · split
    · left; rfl
    · right; rfl

def EngineCall.WF (eng : EngineCall) : Prop :=
  (∀ b ∈ eng.blocks, b.length ≤ OUT_BUF_SIZE) ∧ eng.finalBlk.length ≤ OUT_BUF_SIZE

/-- bytes that went through `flush_block` in a call -/
def CallOut.produced (eng : EngineCall) (r : CallOut) : List UInt8 :=
  (eng.blocks.take r.flushed).flatten ++ (if r.epilogue then eng.finalBlk else [])

/-- What one call guarantees: counts within the offered space; no byte lost, duplicated or reordered;
    blocks are flushed only when nothing is pending and the stream is not finished; truthful status. -/
def CallSpec (s : Stage) (outLen flush : Nat) (eng : EngineCall) (r : CallOut) : Prop :=
  r.delivered.length ≤ outLen ∧
  (r.status ≠ stBadParam → r.delivered ++ r.stage.pending = s.pending ++ r.produced eng) ∧
  (r.status = stBadParam → r.delivered = [] ∧ r.stage.pending = s.pending ∧ r.flushed = 0 ∧ r.epilogue = false) ∧
  ((r.flushed ≠ 0 ∨ r.epilogue = true) → s.pending = [] ∧ s.finished = false) ∧
  (r.status = stDone ↔ (r.stage.finished = true ∧ r.stage.pending = [] ∧ r.status ≠ stBadParam)) ∧
  r.stage.prev = r.status ∧ r.stage.lastFlush = flush ∧
  (r.stage.finished = true → s.finished = true ∨ flush = flFinish)

/-- Every path of `compress_inner` that gets past the usage guard ends in `flush_output_buffer`: `pre`
    delivered before it, `s2` the stage it starts from, `k` blocks and (if `e`) the final block produced. -/
theorem flushOut_call (s s2 : Stage) (eng : EngineCall) (pre : List UInt8) (k : Nat) (e : Bool) {outLen flush ofs : Nat}
    (hofs : ofs = pre.length) (hpre : ofs ≤ outLen) (hfl : s2.lastFlush = flush)
    (hcons : pre ++ s2.pending = s.pending ++ ((eng.blocks.take k).flatten ++ (if e then eng.finalBlk else [])))
    (hfin : s2.finished = true → s.finished = true ∨ flush = flFinish)
    (hdr : (k ≠ 0 ∨ e = true) → s.pending = [] ∧ s.finished = false) :
    CallSpec s outLen flush eng ⟨(flushOut s2 outLen ofs).1, (flushOut s2 outLen ofs).2.1,
      pre ++ (flushOut s2 outLen ofs).2.2, k, e⟩ := by
  obtain ⟨h1, h2, h3, h4, h5, h6, h7⟩ := flushOut_spec s2 outLen ofs hpre
  generalize flushOut s2 outLen ofs = q at h1 h2 h3 h4 h5 h6 h7
  obtain ⟨s', st, d⟩ := q
  dsimp only at h1 h2 h3 h4 h5 h6 h7
  have hnb : st ≠ stBadParam := by rcases h7 with h | h <;> rw [h] <;> decide
  refine ⟨?_, fun _ => ?_, fun h => absurd h hnb, hdr, ?_, h5, h4.trans hfl, fun h => hfin (h3 ▸ h)⟩
  · show (pre ++ d).length ≤ outLen
    rw [List.length_append]; omega
  · show (pre ++ d) ++ s'.pending = s.pending ++ _
    rw [List.append_assoc, h2, hcons]; rfl
  · show st = stDone ↔ _
    rw [h6]; exact ⟨fun h => ⟨h.1, h.2, hnb⟩, fun h => ⟨h.1, h.2.1⟩⟩

theorem compressInner_spec (s : Stage) (outLen flush : Nat) (eng : EngineCall) (hwf : eng.WF) :
    CallSpec s outLen flush eng (compressInner s outLen flush eng) := by
  unfold compressInner
  dsimp only
  by_cases hg : (!(s.prev == stOkay) || !(s.lastFlush != flFinish || flush == flFinish)) = true
  · rw [if_pos hg]
    exact ⟨Nat.zero_le _, fun h => absurd rfl h, fun _ => ⟨rfl, rfl, rfl, rfl⟩, fun h => h.elim (absurd rfl) (absurd · Bool.false_ne_true),
      ⟨fun h => absurd h (by decide : stBadParam ≠ stDone), fun h => absurd rfl h.2.2⟩, rfl, rfl, fun h => .inl h⟩
  rw [if_neg hg]
  by_cases hp : (!s.pending.isEmpty || s.finished) = true
  · rw [if_pos hp]
    exact flushOut_call s { s with lastFlush := flush } eng [] 0 false rfl (Nat.zero_le _) rfl (by simp) .inl
      (fun h => h.elim (absurd rfl) (absurd · Bool.false_ne_true))
  rw [if_neg hp]
  have hp0 : s.pending = [] ∧ s.finished = false := by
    simp only [Bool.or_eq_true, Bool.not_eq_true', List.isEmpty_eq_false_iff, ne_eq, not_or, Decidable.not_not,
      Bool.not_eq_true] at hp
    exact hp
  obtain ⟨b1, b2, _⟩ := stageBlocks_spec outLen eng.blocks 0 hwf.1 (Nat.zero_le _)
  generalize stageBlocks outLen 0 eng.blocks = q at b1 b2
  obtain ⟨d1, p1, k⟩ := q
  dsimp only at b1 b2 ⊢
  rw [Nat.zero_add] at b1
  by_cases hp1 : (!p1.isEmpty) = true
  · rw [if_pos hp1]
    exact flushOut_call s { s with lastFlush := flush, pending := p1 } eng d1 k false rfl b1 rfl
      (by rw [hp0.1, b2]; simp) (fun h => .inl h) (fun _ => hp0)
  rw [if_neg hp1]
  have hp1' : p1 = [] := by simpa using hp1
  rw [hp1', List.append_nil] at b2
  by_cases hep : (flush != flNone && eng.drained) = true
  · rw [if_pos hep]
    have f1 := flushOne_len outLen d1.length eng.finalBlk hwf.2 b1
    have f2 := flushOne_concat outLen d1.length eng.finalBlk
    generalize flushOne outLen d1.length eng.finalBlk = q at f1 f2
    obtain ⟨d2, p2⟩ := q
    dsimp only at f1 f2 ⊢
    exact flushOut_call s { s with lastFlush := flush, pending := p2, finished := flush == flFinish } eng (d1 ++ d2) k true
      List.length_append.symm f1 rfl (by rw [hp0.1, List.append_assoc, f2, b2]; simp)
      (fun h => .inr (by simpa using h)) (fun _ => hp0)
  · rw [if_neg hep]
    exact flushOut_call s { s with lastFlush := flush } eng d1 k false rfl b1 rfl (by rw [hp0.1, b2]; simp) (fun h => .inl h) (fun _ => hp0)

structure Call where
  outLen : Nat
  flush  : Nat
  eng    : EngineCall

/-- A history of calls on one compressor: final stage, all bytes delivered, all bytes that went
    through `flush_block`, the statuses returned. -/
def runCalls : Stage → List Call → Stage × List UInt8 × List UInt8 × List Int
  | s, [] => (s, [], [], [])
  | s, c :: cs =>
    let r := compressInner s c.outLen c.flush c.eng
    let (s', d, p, sts) := runCalls r.stage cs
    (s', r.delivered ++ d, (if r.status = stBadParam then [] else r.produced c.eng) ++ p, r.status :: sts)

/-- EVERY HISTORY: what the caller received so far, followed by what is still pending in
    `local_buf`, is exactly the concatenation of all blocks that went through `flush_block`, in order:
    no byte lost, duplicated or reordered, whatever the output buffer sizes (down to zero) and
    whatever the engines produced. -/
theorem history_conservation : ∀ (cs : List Call) (s : Stage), (∀ c ∈ cs, c.eng.WF) →
    (runCalls s cs).2.1 ++ (runCalls s cs).1.pending = s.pending ++ (runCalls s cs).2.2.1 := by
  intro cs
  induction cs with
  | nil => intro s _; simp [runCalls]
  | cons c cs ih =>
    intro s hwf
    have h1 := compressInner_spec s c.outLen c.flush c.eng (hwf c (List.mem_cons_self ..))
    have h2 := ih (compressInner s c.outLen c.flush c.eng).stage (fun x hx => hwf x (List.mem_cons_of_mem _ hx))
    unfold runCalls
    simp only at h1 ⊢
    generalize compressInner s c.outLen c.flush c.eng = r at h1 h2
    generalize runCalls r.stage cs = q at h2
    obtain ⟨s', d, p, sts⟩ := q
    simp only at h2 ⊢
    by_cases hb : r.status = stBadParam
    · obtain ⟨e1, e2, _, _⟩ := h1.2.2.1 hb
      simp only [hb, ↓reduceIte, List.nil_append, e1]
      rw [h2, e2]
    · have e := h1.2.1 hb
      simp only [hb, ↓reduceIte, List.append_assoc]
      rw [h2, ← List.append_assoc, e, List.append_assoc]

theorem call_within_space (s : Stage) (c : Call) (h : c.eng.WF) :
    (compressInner s c.outLen c.flush c.eng).delivered.length ≤ c.outLen :=
  (compressInner_spec s c.outLen c.flush c.eng h).1

/-- A block is handed to `flush_block` only when nothing is pending and the stream has not
    finished (the `debug_assert!` at the top of `flush_block` as a theorem of the model). -/
theorem flush_only_when_drained (s : Stage) (c : Call) (h : c.eng.WF) :
    let r := compressInner s c.outLen c.flush c.eng
    (r.flushed ≠ 0 ∨ r.epilogue = true) → s.pending = [] ∧ s.finished = false :=
  (compressInner_spec s c.outLen c.flush c.eng h).2.2.2.1

theorem after_done_or_badparam (s : Stage) (c : Call) (h : s.prev = stDone ∨ s.prev = stBadParam) :
    let r := compressInner s c.outLen c.flush c.eng
    r.status = stBadParam ∧ r.delivered = [] ∧ r.stage.prev = stBadParam ∧ r.stage.pending = s.pending := by
  unfold compressInner
  have hp : (s.prev == stOkay) = false := by rcases h with h | h <;> rw [h] <;> decide
  simp only [hp, Bool.not_false, Bool.true_or, ↓reduceIte, and_self]

/-- Finish is sticky: once a call asked for `Finish`, a call asking for anything else answers
    `BadParam` (and by `after_done_or_badparam` so does every later call). -/
theorem nonfinish_after_finish (s : Stage) (c : Call) (h : s.lastFlush = flFinish) (hf : c.flush ≠ flFinish) :
    (compressInner s c.outLen c.flush c.eng).status = stBadParam := by
  unfold compressInner
  have h1 : (s.lastFlush != flFinish) = false := by rw [h]; decide
  have h2 : (c.flush == flFinish) = false := by simpa using hf
  simp only [h1, h2, Bool.or_self, Bool.not_false, Bool.or_true, ↓reduceIte]

/-- `Done` is reported exactly when the stream is finished and nothing is pending; the stream is
    finished only by a call that asked for `Finish`. -/
theorem done_iff_finished_and_drained (s : Stage) (c : Call) (h : c.eng.WF) :
    let r := compressInner s c.outLen c.flush c.eng
    (r.status = stDone ↔ (r.stage.finished = true ∧ r.stage.pending = [] ∧ r.status ≠ stBadParam)) ∧
    (r.stage.finished = true → s.finished = true ∨ c.flush = flFinish) := by
  have := compressInner_spec s c.outLen c.flush c.eng h
  exact ⟨this.2.2.2.2.1, this.2.2.2.2.2.2.2⟩

end Model.DeflOut
