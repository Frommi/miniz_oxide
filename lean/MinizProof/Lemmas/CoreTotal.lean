/-
Termination of the decoder model: every transition that does not stop the automaton strictly
lowers a measure made of the bits still available (unread input + bit buffer), the room left in
the granted window, and a bounded per-state rank. Hence a call never exhausts its fuel: the model
(`Model.Core.decompress`) never answers `stModelError`, for any register state whatsoever
(for Props/C05).
-/
import MinizProof.Lemmas.CoreCall
namespace Model.Core
open Spec

-- sealed while shape lemmas are matched against state functions (see `Lemmas/CoreBasic`)
attribute [local irreducible] readBits decodeHuff Array.instGetElem?NatLtSize

def bitsLeft (e : Env) (c : Ctx) : Nat := 8 * (e.inp.size - c.inPos) + c.r.numBits

/-- Rank of a state: an upper bound on the number of further transitions that neither consume a
    bit nor produce a byte. `bt3`: `block_type = 3`; `idle`: no room or nothing left to copy. -/
def rankOf (s : Nat) (bt3 idle : Bool) : Nat :=
  match s with
  | 0 => 1      -- Start
  | 4 => 7      -- BlockTypeNoCompression
  | 5 => 6      -- RawHeader
  | 6 => 4      -- RawMemcpy1
  | 7 => if idle then 5 else 3   -- RawMemcpy2
  | 8 => 5      -- ReadTableSizes
  | 9 => 4      -- ReadHufflenTableCodeSize
  | 10 => if bt3 then 2 else 1   -- ReadLitlenDistTablesCodeSize
  | 11 => 3     -- ReadExtraBitsCodeSize
  | 13 => 4     -- WriteSymbol
  | 14 => 1     -- ReadExtraBitsLitlen
  | 16 => 2     -- ReadExtraBitsDistance
  | 19 => 1     -- WriteLenBytesToEnd
  | 20 => 2     -- BlockDone
  | 21 => 3     -- HuffDecodeOuterLoop1
  | 22 => 1     -- HuffDecodeOuterLoop2
  | 23 => 1     -- ReadAdler32
  | _ => 0

def rank (e : Env) (c : Ctx) : Nat :=
  rankOf c.r.state (c.r.blockType == 3) (e.outEnd - c.outPos == 0 || c.r.counter == 0)

theorem rankOf_le (s : Nat) (a b : Bool) : rankOf s a b ≤ 7 := by
  unfold rankOf; split <;> (try split) <;> omega

def mu (e : Env) (c : Ctx) : Nat := 64 * bitsLeft e c + 64 * (e.outEnd - c.outPos) + rank e c

def StepDec (e : Env) (c : Ctx) : Step → Prop
  | .cont c' _ => mu e c' < mu e c
  | .fin _ _ _ => True

theorem rank_le (e : Env) (c : Ctx) : rank e c ≤ 7 := rankOf_le _ _ _

variable {e : Env} {c c' : Ctx} {out : Array UInt8}

/-! The three ways a transition lowers the measure: it consumes a bit, it produces a byte, or it
    does neither and goes to a state of lower rank. -/

theorem mu_lt_of_bits (hb : bitsLeft e c' < bitsLeft e c) (ho : c'.outPos = c.outPos) : mu e c' < mu e c := by
  have := rank_le e c'
  unfold mu; omega

theorem mu_lt_of_room (hb : bitsLeft e c' ≤ bitsLeft e c) (ho : c.outPos < c'.outPos) (hle : c.outPos < e.outEnd) :
    mu e c' < mu e c := by
  have := rank_le e c'
  unfold mu; omega

theorem mu_lt_of_rank (hb : bitsLeft e c' ≤ bitsLeft e c) (ho : c'.outPos = c.outPos) (hr : rank e c' < rank e c) :
    mu e c' < mu e c := by
  unfold mu; omega

theorem mu_lt_goto {s s' : Nat} (hs : c.r.state = s) (h : ∀ a b a' b', rankOf s' a' b' < rankOf s a b)
    (hb : bitsLeft e c' ≤ bitsLeft e c := by exact Nat.le_refl _) (ho : c'.outPos = c.outPos := by rfl) :
    mu e (setState c' s') < mu e c :=
  mu_lt_of_rank hb ho (by unfold rank; rw [hs]; exact h _ _ _ _)

theorem bitsLeft_byte (h : c.inPos < e.inp.size) (hi : c'.inPos = c.inPos + 1) (hn : c'.r.numBits = c.r.numBits) :
    bitsLeft e c' < bitsLeft e c := by
  unfold bitsLeft; omega

theorem bitsLeft_read {c1 : Ctx} {n : Nat} (h : ReadOK e.inp c c1)
    (hn : c1.r.numBits + n = c.r.numBits + 8 * (c1.inPos - c.inPos)) : bitsLeft e c1 + n = bitsLeft e c := by
  have := h.inLo
  have := h.inHi
  unfold bitsLeft
  omega

theorem readBits_dec (g : Geo e c out) (amount : Nat) (k : Ctx → Nat → Step)
    (hk : ∀ c1 v, ReadOK e.inp c c1 → bitsLeft e c1 + amount = bitsLeft e c → StepDec e c (k c1 v)) :
    StepDec e c (match readBits e.inp amount c with
      | (c1, none) => .fin e.eoi c1 out
      | (c1, some v) => k c1 v) :=
  readBits_cases g.inLe amount k (fun _ _ _ => trivial) fun c1 v h hn => hk c1 v h (bitsLeft_read h hn)

theorem decodeHuff_dec (g : Geo e c out) (code : Code) (k : Ctx → Nat → Step)
    (hk : ∀ c1 v, ReadOK e.inp c c1 → bitsLeft e c1 < bitsLeft e c → StepDec e c (k c1 v)) :
    StepDec e c (match decodeHuff e.inp code c with
      | (c1, none) => .fin e.eoi c1 out
      | (c1, some v) => k c1 v) :=
  decodeHuff_cases g.inLe code k (fun _ _ _ => trivial) fun c1 v h ⟨_, hl, hn⟩ =>
    hk c1 v h (Nat.lt_of_lt_of_eq (Nat.lt_add_of_pos_right hl) (bitsLeft_read h hn))

theorem readByte_dec (g : Geo e c out) (k : UInt8 → Ctx) (hi : ∀ b, (k b).inPos = c.inPos + 1)
    (hn : ∀ b, (k b).r.numBits = c.r.numBits) (ho : ∀ b, (k b).outPos = c.outPos) :
    StepDec e c (match e.inp[c.inPos]? with
      | none => .fin e.eoi c out
      | some b => .cont (k b) out) :=
  readByte_cases g.inLe _ (fun _ => trivial) fun b h => mu_lt_of_bits (bitsLeft_byte h (hi b) (hn b)) (ho b)

/-- The field may be empty (padding to a byte boundary, a code without extra bits), so the decrease
    comes from the rank. -/
theorem readField_dec {s s' : Nat} (g : Geo e c out) (hs : c.r.state = s)
    (hr : ∀ a b a' b', rankOf s' a' b' < rankOf s a b) (n : Nat) (k : Ctx → Nat → Ctx)
    (hi : ∀ c1 v, bitsLeft e (k c1 v) = bitsLeft e c1) (ho : ∀ c1 v, (k c1 v).outPos = c1.outPos) :
    StepDec e c (match readBits e.inp n c with
      | (c1, none) => .fin e.eoi c1 out
      | (c1, some v) => .cont (setState (k c1 v) s') out) :=
  readBits_dec g n _ fun c1 v h hb =>
    mu_lt_goto hs hr (Nat.le_trans (Nat.le_of_eq (hi c1 v)) (Nat.le.intro hb)) ((ho c1 v).trans h.outPos)

theorem readBits_pos_dec {n : Nat} (g : Geo e c out) (hn : 0 < n) (k : Ctx → Nat → Ctx)
    (hi : ∀ c1 v, bitsLeft e (k c1 v) = bitsLeft e c1) (ho : ∀ c1 v, (k c1 v).outPos = c1.outPos) :
    StepDec e c (match readBits e.inp n c with
      | (c1, none) => .fin e.eoi c1 out
      | (c1, some v) => .cont (k c1 v) out) :=
  readBits_dec g n _ fun c1 v h hb =>
    mu_lt_of_bits (Nat.lt_of_le_of_lt (Nat.le_of_eq (hi c1 v)) (Nat.lt_of_lt_of_eq (Nat.lt_add_of_pos_right hn) hb))
      ((ho c1 v).trans h.outPos)

theorem bitsLeft_initTree (c : Ctx) (a b : Array Nat) : bitsLeft e (initTree c a b) = bitsLeft e c := by
  unfold bitsLeft; rw [initTree_inPos, initTree_numBits]

/-- `init_tree` comes back to `ReadLitlenDistTablesCodeSize` only for block type 2; otherwise it
    goes on to `DecodeLitlen` or fails. -/
theorem rank_initTree (c : Ctx) (a b : Array Nat) :
    rank e (initTree c a b) ≤ if c.r.blockType = 2 then 1 else 0 := by
  unfold initTree
  by_cases h2 : c.r.blockType = 2
  · rw [if_pos h2, if_pos h2]
    refine iteInduction (motive := fun x => rank e x ≤ 1) (fun _ => ?_) fun _ => Nat.zero_le _
    show rankOf sReadLitlenDistTablesCodeSize (c.r.blockType == 3) _ ≤ 1
    rw [h2]; exact Nat.le_refl 1
  · rw [if_neg h2, if_neg h2]
    exact iteInduction (motive := fun x => rank e x ≤ 0) (fun _ => Nat.le_refl 0) fun _ =>
      iteInduction (motive := fun x => rank e x ≤ 0) (fun _ => Nat.le_refl 0) fun _ => Nat.le_refl 0

theorem rank_initTree_le (c : Ctx) (a b : Array Nat) : rank e (initTree c a b) ≤ 1 :=
  Nat.le_trans (rank_initTree c a b) (iteInduction (motive := (· ≤ 1)) (fun _ => Nat.le_refl 1) fun _ => Nat.zero_le 1)

theorem stStart_dec (hs : c.r.state = sStart) : StepDec e c (stStart e c out) :=
  iteInduction (motive := fun s => mu e (setState _ s) < _)
    (fun _ => mu_lt_goto hs (by decide) (Nat.le_add_right _ _))
    (fun _ => mu_lt_goto hs (by decide) (Nat.le_add_right _ _))

theorem stReadBlockHeader_dec (g : Geo e c out) : StepDec e c (stReadBlockHeader e c out) :=
  readBits_dec g 3 _ fun c1 v h hb =>
    have hlt : bitsLeft e c1 < bitsLeft e c := by omega
    iteInduction (fun _ => mu_lt_of_bits hlt h.outPos) fun _ =>
      iteInduction (fun _ => mu_lt_of_bits (Nat.lt_of_le_of_lt (Nat.le_of_eq (bitsLeft_initTree _ _ _)) hlt)
        ((initTree_outPos _ _ _).trans h.outPos))
        fun _ => iteInduction (fun _ => mu_lt_of_bits hlt h.outPos) fun _ => mu_lt_of_bits hlt h.outPos

theorem stRawHeader_dec (g : Geo e c out) (hs : c.r.state = sRawHeader) : StepDec e c (stRawHeader e c out) := by
  refine iteInduction (fun _ => iteInduction (fun _ => ?_) fun _ => ?_) fun _ => ?_
  · exact readBits_pos_dec g (by decide) _ (fun _ _ => rfl) (fun _ _ => rfl)
  · exact readByte_dec g _ (fun _ => rfl) (fun _ => rfl) (fun _ => rfl)
  · refine iteInduction (fun _ => ?_) fun _ => iteInduction (fun _ => ?_) fun _ => iteInduction (fun _ => ?_) fun _ => ?_
    all_goals exact mu_lt_goto hs (by decide)

theorem stRawStoreFirstByte_dec : StepDec e c (stRawStoreFirstByte e c out) :=
  iteInduction (fun _ => trivial) fun (hroom : ¬ e.outEnd - c.outPos = 0) =>
    have hlt : c.outPos < e.outEnd := by omega
    iteInduction (fun _ => mu_lt_of_room (Nat.le_refl _) (Nat.lt_succ_self _) hlt)
      fun _ => mu_lt_of_room (Nat.le_refl _) (Nat.lt_succ_self _) hlt

theorem stRawMemcpy1_dec (hs : c.r.state = sRawMemcpy1) : StepDec e c (stRawMemcpy1 e c out) :=
  iteInduction (fun _ => mu_lt_goto hs (by decide)) fun hc =>
    iteInduction (fun _ => trivial) fun (hroom : ¬ e.outEnd - c.outPos = 0) =>
      mu_lt_of_rank (Nat.le_refl _) rfl (by
        show rankOf sRawMemcpy2 _ (e.outEnd - c.outPos == 0 || c.r.counter == 0) < rank e c
        rw [beq_false_of_ne hroom, beq_false_of_ne hc]
        unfold rank; rw [hs]; exact (by decide : 3 < 4))

/-- With nothing to copy (`idle`) the rank falls from 5 to 4; otherwise at least one byte is copied. -/
theorem stRawMemcpy2_dec (hs : c.r.state = sRawMemcpy2) : StepDec e c (stRawMemcpy2 e c out) := by
  unfold stRawMemcpy2 wrBytesLeft
  refine iteInduction (fun hin => ?_) fun _ => trivial
  have hb : ∀ n, 8 * (e.inp.size - (c.inPos + n)) + c.r.numBits ≤ bitsLeft e c := fun n =>
    Nat.add_le_add_right (Nat.mul_le_mul_left 8 (Nat.sub_le_sub_left (Nat.le_add_right _ _) _)) _
  by_cases h0 : min (min (e.outEnd - c.outPos) (e.inp.size - c.inPos)) c.r.counter = 0
  · have hidle : (e.outEnd - c.outPos == 0 || c.r.counter == 0) = true := by
      have hB : e.inp.size - c.inPos ≠ 0 := Nat.sub_ne_zero_of_lt hin
      rw [Nat.min_eq_zero_iff, Nat.min_eq_zero_iff] at h0
      rcases h0 with (h | h) | h
      · rw [h]; rfl
      · exact absurd h hB
      · rw [h, Bool.or_comm]; rfl
    rw [h0]
    exact mu_lt_of_rank (hb 0) rfl (by unfold rank; rw [hs, hidle]; exact (by decide : 4 < 5))
  · have hpos := Nat.pos_of_ne_zero h0
    exact mu_lt_of_room (hb _) (Nat.lt_add_of_pos_right hpos) (Nat.lt_of_sub_pos
      (Nat.lt_of_lt_of_le hpos (Nat.le_trans (Nat.min_le_left _ _) (Nat.min_le_left _ _))))

theorem stReadTableSizes_dec (g : Geo e c out) (hs : c.r.state = sReadTableSizes) :
    StepDec e c (stReadTableSizes e c out) := by
  refine iteInduction (fun (hc : c.r.counter < 3) => ?_) fun _ => iteInduction (fun _ => ?_) fun _ => ?_
  · have : 0 < [5, 5, 4].getD c.r.counter 0 := by
      have : c.r.counter = 0 ∨ c.r.counter = 1 ∨ c.r.counter = 2 := by omega
      rcases this with h | h | h <;> rw [h] <;> decide
    exact readBits_pos_dec g this _ (fun _ _ => rfl) (fun _ _ => rfl)
  · exact mu_lt_goto hs (by decide)
  · exact mu_lt_goto hs (by decide)

theorem stReadHufflenTableCodeSize_dec (g : Geo e c out) (hs : c.r.state = sReadHufflenTableCodeSize) :
    StepDec e c (stReadHufflenTableCodeSize e c out) := by
  refine iteInduction (fun _ => ?_) fun _ => ?_
  · exact readBits_pos_dec g (by decide) _ (fun _ _ => rfl) (fun _ _ => rfl)
  · refine mu_lt_of_rank (Nat.le_of_eq (bitsLeft_initTree _ _ _)) (initTree_outPos _ _ _) ?_
    refine Nat.lt_of_le_of_lt (rank_initTree_le _ _ _) ?_
    unfold rank; rw [hs]; exact (by decide : 1 < 4)

theorem stReadLitlenDistTablesCodeSize_dec (g : Geo e c out) (hs : c.r.state = sReadLitlenDistTablesCodeSize) :
    StepDec e c (stReadLitlenDistTablesCodeSize e c out) := by
  refine iteInduction (fun _ => ?_) fun _ => iteInduction (fun _ => ?_) fun _ => ?_
  · exact decodeHuff_dec g _ _ fun c1 v h hb =>
      iteInduction (fun _ => mu_lt_of_bits hb h.outPos) fun _ =>
        iteInduction (fun _ => mu_lt_of_bits hb h.outPos) fun _ => mu_lt_of_bits hb h.outPos
  · exact mu_lt_goto hs (by decide)
  · refine mu_lt_of_rank (Nat.le_of_eq (bitsLeft_initTree _ _ _)) (initTree_outPos _ _ _) ?_
    refine Nat.lt_of_le_of_lt (rank_initTree _ _ _) ?_
    show (if c.r.blockType - 1 = 2 then 1 else 0) < rank e c
    unfold rank; rw [hs]
    by_cases h3 : c.r.blockType = 3
    · rw [h3]; exact (by decide : 1 < 2)
    · rw [if_neg (by omega), beq_false_of_ne h3]; exact (by decide : 0 < 1)

theorem stWriteSymbol_dec (hs : c.r.state = sWriteSymbol) : StepDec e c (stWriteSymbol e c out) :=
  iteInduction (fun _ => mu_lt_goto hs (by decide)) fun _ =>
    iteInduction (fun (hroom : e.outEnd - c.outPos > 0) =>
      mu_lt_of_room (Nat.le_refl _) (Nat.lt_succ_self _) (by omega)) fun _ => trivial

theorem stHuffDecodeOuterLoop1_dec (hs : c.r.state = sHuffDecodeOuterLoop1) :
    StepDec e c (stHuffDecodeOuterLoop1 e c out) := by
  unfold stHuffDecodeOuterLoop1
  dsimp only
  -- named, so that comparing the new context with `c` does not start evaluating them
  generalize c.r.counter % 512 = sym
  generalize lengthBaseExtra sym = be
  refine iteInduction (fun _ => ?_) fun _ => iteInduction (fun _ => ?_) fun _ =>
    iteInduction (motive := fun s => mu e (setState _ s) < _) (fun _ => ?_) fun _ => ?_
  all_goals exact mu_lt_goto hs (by decide)

theorem stDecodeDistance_dec (g : Geo e c out) : StepDec e c (stDecodeDistance e c out) :=
  decodeHuff_dec g _ _ fun _ _ h hb =>
    iteInduction (fun _ => mu_lt_of_bits hb h.outPos) fun _ => mu_lt_of_bits hb h.outPos

theorem stMatch_dec {s : Nat} (hs : c.r.state = s) (hr : ∀ a b, 0 < rankOf s a b) :
    StepDec e c (stMatch e c out) := by
  refine iteInduction (fun _ => ?_) fun _ => iteInduction (fun _ => ?_) fun hc =>
    iteInduction (fun _ => trivial) fun (hroom : ¬ e.outEnd - c.outPos = 0) => ?_
  · exact mu_lt_goto hs fun a b _ _ => hr a b
  · exact mu_lt_goto hs fun a b _ _ => hr a b
  · have hn : c.outPos < c.outPos + min (e.outEnd - c.outPos) c.r.counter :=
      Nat.lt_add_of_pos_right (Nat.lt_min.mpr ⟨Nat.pos_of_ne_zero hroom, Nat.pos_of_ne_zero hc⟩)
    have hlt : c.outPos < e.outEnd := Nat.lt_of_sub_pos (Nat.pos_of_ne_zero hroom)
    exact iteInduction (fun _ => mu_lt_of_room (Nat.le_refl _) hn hlt) fun _ => mu_lt_of_room (Nat.le_refl _) hn hlt

/-- Padding to a byte boundary and giving back `u` whole bytes restores at most the bits that were
    read: `8 * u` more unread input bits, `8 * u` fewer buffered ones. -/
theorem bitsLeft_undo {size pos nb nb' u : Nat} (hp : pos ≤ size) (hnb : nb' ≤ nb) (h1 : u ≤ nb' / 8) (h2 : u ≤ pos) :
    8 * (size - (pos - u)) + (nb' - 8 * u) ≤ 8 * (size - pos) + nb := by
  omega

theorem stBlockDone_dec (g : Geo e c out) (hs : c.r.state = sBlockDone) : StepDec e c (stBlockDone e c out) :=
  have hb := bitsLeft_undo g.inLe (Nat.sub_le c.r.numBits (c.r.numBits % 8)) (Nat.min_le_left _ c.inPos)
    (Nat.min_le_right _ _)
  iteInduction
    (fun _ => iteInduction (fun _ => mu_lt_goto hs (by decide) hb) fun _ => mu_lt_goto hs (by decide) hb)
    fun _ => iteInduction (fun _ => trivial) fun _ => mu_lt_goto hs (by decide)

theorem stReadAdler32_dec (g : Geo e c out) (hs : c.r.state = sReadAdler32) : StepDec e c (stReadAdler32 e c out) := by
  refine iteInduction (fun _ => iteInduction (fun _ => ?_) fun _ => ?_) fun _ => ?_
  · exact readBits_pos_dec g (by decide) _ (fun _ _ => rfl) (fun _ _ => rfl)
  · exact readByte_dec g _ (fun _ => rfl) (fun _ => rfl) (fun _ => rfl)
  · exact mu_lt_goto hs (by decide)

theorem step_dec (g : Geo e c out) : StepDec e c (step e c out) :=
  stepAt_cases (P := fun s f => c.r.state = s → StepDec e c (f e c out))
    stStart_dec (fun _ => readByte_dec g _ (fun _ => rfl) (fun _ => rfl) (fun _ => rfl))
    (fun _ => readByte_dec g _ (fun _ => rfl) (fun _ => rfl) (fun _ => rfl)) (fun _ => stReadBlockHeader_dec g)
    (fun hs => readField_dec g hs (by decide) _ _ (fun _ _ => rfl) (fun _ _ => rfl)) (stRawHeader_dec g)
    (fun _ => readBits_pos_dec g (by decide) _ (fun _ _ => rfl) (fun _ _ => rfl))
    (fun _ => stRawStoreFirstByte_dec) stRawMemcpy1_dec stRawMemcpy2_dec (stReadTableSizes_dec g)
    (stReadHufflenTableCodeSize_dec g) (stReadLitlenDistTablesCodeSize_dec g)
    (fun hs => readField_dec g hs (by decide) _ _ (fun _ _ => rfl) (fun _ _ => rfl))
    (fun _ => decodeHuff_dec g _ _ fun _ _ h hb => mu_lt_of_bits hb h.outPos) stWriteSymbol_dec
    stHuffDecodeOuterLoop1_dec (fun hs => readField_dec g hs (by decide) _ _ (fun _ _ => rfl) (fun _ _ => rfl))
    (fun _ => stDecodeDistance_dec g) (fun hs => readField_dec g hs (by decide) _ _ (fun _ _ => rfl) (fun _ _ => rfl))
    (fun h => stMatch_dec h (by decide)) (fun h => stMatch_dec h (by decide))
    (stBlockDone_dec g) (stReadAdler32_dec g) (fun _ => trivial) (fun _ _ _ => trivial) c.r.state rfl

theorem run_total (e : Env) : ∀ (fuel : Nat) (c : Ctx) (out : Array UInt8), Geo e c out → mu e c < fuel →
    FinOK e (run e fuel c out).1 (run e fuel c out).2.1 := by
  intro fuel
  induction fuel with
  | zero => intro c out g h; omega
  | succ fuel ih =>
    intro c out g hlt
    have hs := step_ok g
    have hd := step_dec (out := out) g
    unfold run
    cases hstep : step e c out with
    | cont c1 out1 =>
      rw [hstep] at hs hd
      exact ih c1 out1 hs.geo (by simp only [StepDec] at hd; omega)
    | fin st c1 out1 =>
      rw [hstep] at hs
      exact hs.2

theorem run_fuel_mono (e : Env) : ∀ (f : Nat) (c : Ctx) (o : Array UInt8), (run e f c o).1 ≠ stModelError →
    ∀ f', f ≤ f' → run e f' c o = run e f c o := by
  intro f
  induction f with
  | zero => intro c o h; simp [run] at h
  | succ f ih =>
    intro c o h f' hle
    obtain ⟨f'', rfl⟩ : ∃ f'', f' = f'' + 1 := ⟨f' - 1, by omega⟩
    rw [run] at h ⊢
    conv => rhs; rw [run]
    cases hst : step e c o with
    | cont c1 o1 =>
      rw [hst] at h
      exact ih c1 o1 h f'' (by omega)
    | fin st c1 o1 => rfl

theorem callRun_fin (r : Regs) (inp out : Array UInt8) (outPos budget flags : Nat)
    (hg : badGeometry flags out.size outPos = false) :
    FinOK (callEnv inp out outPos budget flags) (callRun r inp out outPos budget flags).1
      (callRun r inp out outPos budget flags).2.1 := by
  refine run_total _ _ _ _ (callGeo hg) ?_
  have := rank_le (callEnv inp out outPos budget flags) { r := r, inPos := 0, outPos := outPos }
  show 64 * (8 * (inp.size - 0) + r.numBits) + 64 * (min (outPos + budget) out.size - outPos) + _ <
    64 * (8 * inp.size + r.numBits) + 64 * (min (outPos + budget) out.size - outPos) + 64
  omega

theorem callRun_ne (r : Regs) (inp out : Array UInt8) (outPos budget flags : Nat)
    (hg : badGeometry flags out.size outPos = false) : (callRun r inp out outPos budget flags).1 ≠ stModelError :=
  finOK_ne_modelError (callRun_fin r inp out outPos budget flags hg)

end Model.Core
