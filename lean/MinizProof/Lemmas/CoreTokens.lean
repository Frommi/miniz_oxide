/-
The token loop of a Huffman block: whenever the specification's `decodeTokens` accepts, the model
started in `DecodeLitlen` with the same codes reaches `BlockDone` having produced the same bytes
and standing at the same bit position. Helper lemma for Props/C03.
-/
import MinizProof.Lemmas.CoreSim
namespace Model.Core
open Spec

theorem decodeToken_inv (maxDist : Nat) (lit dist : Code) (data : Array UInt8) (pos avail : Nat) :
    match decodeToken maxDist lit dist data pos avail with
    | .lit b p => ∃ s, decodeSym lit data pos = .sym s p ∧ s < 256 ∧ b = s.toUInt8
    | .eob p => decodeSym lit data pos = .sym 256 p
    | .copy len dd p => ∃ s p1 lx d p3 dx, decodeSym lit data pos = .sym s p1 ∧ 256 < s ∧ s ≤ 285 ∧
        bitsAt data p1 (lengthBaseExtra s).2 = some lx ∧
        decodeSym dist data (p1 + (lengthBaseExtra s).2) = .sym d p3 ∧ d ≤ 29 ∧
        bitsAt data p3 (distBaseExtra d).2 = some dx ∧
        len = (lengthBaseExtra s).1 + lx ∧ dd = (distBaseExtra d).1 + dx ∧ p = p3 + (distBaseExtra d).2 ∧
        dd ≤ avail
    | _ => True := by
  unfold decodeToken
  cases h1 : decodeSym lit data pos with
  | short => trivial
  | invalid => trivial
  | sym s p1 =>
    dsimp only
    by_cases hs : s < 256
    · rw [if_pos hs]; exact ⟨s, rfl, hs, rfl⟩
    · rw [if_neg hs]
      by_cases he : s = 256
      · rw [if_pos he, he]
      · rw [if_neg he]
        by_cases hg : s > 285
        · rw [if_pos hg]; trivial
        · rw [if_neg hg]
          cases h2 : bitsAt data p1 (lengthBaseExtra s).2 with
          | none => trivial
          | some lx =>
            cases h3 : decodeSym dist data (p1 + (lengthBaseExtra s).2) with
            | short => trivial
            | invalid => trivial
            | sym d p3 =>
              dsimp only
              by_cases hd : d > 29
              · rw [if_pos hd]; trivial
              · rw [if_neg hd]
                cases h4 : bitsAt data p3 (distBaseExtra d).2 with
                | none => trivial
                | some dx =>
                  dsimp only
                  by_cases hfar : ((distBaseExtra d).1 + dx > avail || (distBaseExtra d).1 + dx > maxDist) = true
                  · rw [if_pos hfar]; trivial
                  · rw [if_neg hfar]
                    simp only [Bool.or_eq_true, decide_eq_true_eq, not_or, Nat.not_lt] at hfar
                    exact ⟨s, p1, lx, d, p3, dx, rfl, by omega, by omega, h2, h3, by omega, h4, rfl, rfl, rfl, hfar.1⟩

theorem decodeToken_lit_inv {maxDist : Nat} {lit dist : Code} {data : Array UInt8} {pos avail : Nat}
    {b : UInt8} {p : Nat} (h : decodeToken maxDist lit dist data pos avail = .lit b p) :
    ∃ s, decodeSym lit data pos = .sym s p ∧ s < 256 ∧ b = s.toUInt8 := by
  have := decodeToken_inv maxDist lit dist data pos avail
  rw [h] at this
  exact this

theorem decodeToken_eob_inv {maxDist : Nat} {lit dist : Code} {data : Array UInt8} {pos avail : Nat}
    {p : Nat} (h : decodeToken maxDist lit dist data pos avail = .eob p) :
    decodeSym lit data pos = .sym 256 p := by
  have := decodeToken_inv maxDist lit dist data pos avail
  rw [h] at this
  exact this

theorem decodeToken_copy_inv {maxDist : Nat} {lit dist : Code} {data : Array UInt8} {pos avail : Nat}
    {len dd p : Nat} (h : decodeToken maxDist lit dist data pos avail = .copy len dd p) :
    ∃ s p1 lx d p3 dx, decodeSym lit data pos = .sym s p1 ∧ 256 < s ∧ s ≤ 285 ∧
      bitsAt data p1 (lengthBaseExtra s).2 = some lx ∧
      decodeSym dist data (p1 + (lengthBaseExtra s).2) = .sym d p3 ∧ d ≤ 29 ∧
      bitsAt data p3 (distBaseExtra d).2 = some dx ∧
      len = (lengthBaseExtra s).1 + lx ∧ dd = (distBaseExtra d).1 + dx ∧ p = p3 + (distBaseExtra d).2 ∧
      dd ≤ avail := by
  have := decodeToken_inv maxDist lit dist data pos avail
  rw [h] at this
  exact this

theorem distBase_pos (d : Nat) : 1 ≤ (distBaseExtra d).1 := by
  unfold distBaseExtra
  split
  · simp
  · simp

variable {e : Env} {c : Ctx} {outA : Array UInt8}

theorem bitsAt_zero (data : Array UInt8) (pos : Nat) : bitsAt data pos 0 = some 0 := rfl

theorem sim_lit {pos s p : Nat} {full : Array UInt8} (hend : e.outEnd ≤ e.outLen)
    (hsim : Sim e c outA pos full) (hs : c.r.state = sDecodeLitlen)
    (hd : decodeSym c.r.litCode e.inp pos = .sym s p) (hlt : s < 256) (hroom : full.size < e.outEnd) :
    ∃ c2 outA2, Reaches e c outA c2 outA2 ∧ c2.r.state = sDecodeLitlen ∧
      Sim e c2 outA2 p (full.push s.toUInt8) ∧ Inv c c2 := by
  obtain ⟨c1, hst1, hs1, hc1, hr1, ho1, i1, h81⟩ := micro_decodeLitlen (outA := outA) hs hsim.rep hd
  have hroom1 : c1.outPos < e.outEnd := by rw [ho1, hsim.outPos]; exact hroom
  obtain ⟨c2, hst2, hs2, ho2, hi2, hn2, hb2, i2⟩ := micro_writeLiteral (outA := outA) hs1 (by rw [hc1]; exact hlt) hroom1
  refine ⟨c2, _, (Reaches.of_step hst1).trans (Reaches.of_step hst2), hs2,
    ⟨hr1.of_eq hi2 hn2 hb2, by rw [hn2]; exact h81 hsim.nb8, ?_, ?_, ?_⟩, i1.trans i2⟩
  · rw [ho2, ho1, hsim.outPos]; simp
  · rw [ho1, hsim.outPos, hc1]
    exact hsim.outEq.push _ (by have := hsim.size; omega)
  · simp [hsim.size]

theorem sim_eob {pos p : Nat} {full : Array UInt8}
    (hsim : Sim e c outA pos full) (hs : c.r.state = sDecodeLitlen)
    (hd : decodeSym c.r.litCode e.inp pos = .sym 256 p) :
    ∃ c3, Reaches e c outA c3 outA ∧ c3.r.state = sBlockDone ∧ Sim e c3 outA p full ∧ Inv c c3 := by
  obtain ⟨c1, hst1, hs1, hc1, hr1, ho1, i1, h81⟩ := micro_decodeLitlen (outA := outA) hs hsim.rep hd
  have hst2 := micro_writeSymbol_hi (e := e) (outA := outA) hs1 (by rw [hc1]; decide)
  obtain ⟨c3, hst3, hs3, ho3, hi3, hn3, hb3, i3⟩ :=
    micro_hol1_eob (e := e) (c := setState c1 sHuffDecodeOuterLoop1) (outA := outA) rfl hc1
  refine ⟨c3, (Reaches.of_step hst1).trans ((Reaches.of_step hst2).trans (Reaches.of_step hst3)), hs3,
    ⟨hr1.of_eq hi3 hn3 hb3, by rw [hn3]; exact h81 hsim.nb8, ?_, hsim.outEq, hsim.size⟩, ?_⟩
  · rw [ho3]; show c1.outPos = _; rw [ho1, hsim.outPos]
  · exact i1.trans ⟨i3.finish, i3.z0, i3.z1, i3.zA, i3.chk, i3.lit, i3.dist, i3.rh, i3.ts, i3.lc⟩

theorem sim_len {pos s p1 : Nat} {full : Array UInt8}
    (hsim : Sim e c outA pos full) (hs : c.r.state = sDecodeLitlen)
    (hd : decodeSym c.r.litCode e.inp pos = .sym s p1) (h1 : 256 < s) (h2 : s ≤ 285) :
    ∃ c3, Reaches e c outA c3 outA ∧
      c3.r.state = (if (lengthBaseExtra s).2 ≠ 0 then sReadExtraBitsLitlen else sDecodeDistance) ∧
      c3.r.counter = (lengthBaseExtra s).1 ∧ c3.r.numExtra = (lengthBaseExtra s).2 ∧
      Rep e.inp c3 p1 ∧ c3.outPos = c.outPos ∧ Inv c c3 ∧ c3.r.numBits < 8 := by
  obtain ⟨c1, hst1, hs1, hc1, hr1, ho1, i1, h81⟩ := micro_decodeLitlen (outA := outA) hs hsim.rep hd
  have hst2 := micro_writeSymbol_hi (e := e) (outA := outA) hs1 (by rw [hc1]; exact Nat.le_of_lt h1)
  obtain ⟨c3, hst3, hs3, hc3, hn3, ho3, hi3, hnb3, hb3, i3⟩ :=
    micro_hol1_len (e := e) (c := setState c1 sHuffDecodeOuterLoop1) (outA := outA) rfl hc1 h1 h2
  exact ⟨c3, (Reaches.of_step hst1).trans ((Reaches.of_step hst2).trans (Reaches.of_step hst3)), hs3, hc3, hn3,
    hr1.of_eq hi3 hnb3 hb3, ho3.trans ho1,
    i1.trans ⟨i3.finish, i3.z0, i3.z1, i3.zA, i3.chk, i3.lit, i3.dist, i3.rh, i3.ts, i3.lc⟩,
    by rw [hnb3]; exact h81 hsim.nb8⟩

theorem sim_lenExtra {pos s p1 lx : Nat} {full : Array UInt8}
    (hsim : Sim e c outA pos full) (hs : c.r.state = sDecodeLitlen)
    (hd : decodeSym c.r.litCode e.inp pos = .sym s p1) (h1 : 256 < s) (h2 : s ≤ 285)
    (hlx : bitsAt e.inp p1 (lengthBaseExtra s).2 = some lx) :
    ∃ c4, Reaches e c outA c4 outA ∧ c4.r.state = sDecodeDistance ∧
      c4.r.counter = (lengthBaseExtra s).1 + lx ∧ Rep e.inp c4 (p1 + (lengthBaseExtra s).2) ∧
      c4.outPos = c.outPos ∧ Inv c c4 ∧ c4.r.numBits < 8 := by
  obtain ⟨c3, r03, hs3, hc3, hn3, hr3, ho3, i3, h83⟩ := sim_len hsim hs hd h1 h2
  by_cases hle : (lengthBaseExtra s).2 ≠ 0
  · rw [if_pos hle] at hs3
    obtain ⟨c4, hst4, hs4, hc4, hr4, ho4, i4, h84⟩ := micro_rebl (outA := outA) hs3 hr3 (by rw [hn3]; exact hlx)
    exact ⟨c4, r03.trans (Reaches.of_step hst4), hs4, by rw [hc4, hc3], hn3 ▸ hr4, ho4.trans ho3, i3.trans i4, h84 h83⟩
  · rw [if_neg hle] at hs3
    have hz : (lengthBaseExtra s).2 = 0 := Decidable.not_not.mp hle
    rw [hz, bitsAt_zero, Option.some.injEq] at hlx
    exact ⟨c3, r03, hs3, by rw [hc3, ← hlx, Nat.add_zero], by rw [hz]; exact hr3, ho3, i3, h83⟩

theorem sim_dist {pos s p1 lx d p3 : Nat} {full : Array UInt8}
    (hsim : Sim e c outA pos full) (hs : c.r.state = sDecodeLitlen)
    (hd : decodeSym c.r.litCode e.inp pos = .sym s p1) (h1 : 256 < s) (h2 : s ≤ 285)
    (hlx : bitsAt e.inp p1 (lengthBaseExtra s).2 = some lx)
    (hdd : decodeSym c.r.distCode e.inp (p1 + (lengthBaseExtra s).2) = .sym d p3) (hd29 : d ≤ 29) :
    ∃ c5, Reaches e c outA c5 outA ∧
      c5.r.state = (if (distBaseExtra d).2 ≠ 0 then sReadExtraBitsDistance else sHuffDecodeOuterLoop2) ∧
      c5.r.dist = (distBaseExtra d).1 ∧ c5.r.numExtra = (distBaseExtra d).2 ∧
      c5.r.counter = (lengthBaseExtra s).1 + lx ∧ Rep e.inp c5 p3 ∧ c5.outPos = c.outPos ∧ Inv c c5 ∧
      c5.r.numBits < 8 := by
  obtain ⟨c4, r04, hs4, hc4, hr4, ho4, i4, h84⟩ := sim_lenExtra hsim hs hd h1 h2 hlx
  obtain ⟨c5, hst5, hs5, hdist5, hn5, hc5, hr5, ho5, i5, h85⟩ :=
    micro_decodeDistance (outA := outA) hs4 hr4 (by rw [i4.dist]; exact hdd) hd29
  exact ⟨c5, r04.trans (Reaches.of_step hst5), hs5, hdist5, hn5, hc5.trans hc4, hr5, ho5.trans ho4, i4.trans i5, h85 h84⟩

theorem sim_distExtra {pos s p1 lx d p3 dx : Nat} {full : Array UInt8}
    (hsim : Sim e c outA pos full) (hs : c.r.state = sDecodeLitlen)
    (hd : decodeSym c.r.litCode e.inp pos = .sym s p1) (h1 : 256 < s) (h2 : s ≤ 285)
    (hlx : bitsAt e.inp p1 (lengthBaseExtra s).2 = some lx)
    (hdd : decodeSym c.r.distCode e.inp (p1 + (lengthBaseExtra s).2) = .sym d p3) (hd29 : d ≤ 29)
    (hdx : bitsAt e.inp p3 (distBaseExtra d).2 = some dx) :
    ∃ c6, Reaches e c outA c6 outA ∧ c6.r.state = sHuffDecodeOuterLoop2 ∧
      c6.r.dist = (distBaseExtra d).1 + dx ∧ c6.r.counter = (lengthBaseExtra s).1 + lx ∧
      Rep e.inp c6 (p3 + (distBaseExtra d).2) ∧ c6.outPos = c.outPos ∧ Inv c c6 ∧ c6.r.numBits < 8 := by
  obtain ⟨c5, r05, hs5, hdist5, hn5, hc5, hr5, ho5, i5, h85⟩ := sim_dist hsim hs hd h1 h2 hlx hdd hd29
  by_cases hde : (distBaseExtra d).2 ≠ 0
  · rw [if_pos hde] at hs5
    obtain ⟨c6, hst6, hs6, hd6, hc6, hr6, ho6, i6, h86⟩ := micro_rebd (outA := outA) hs5 hr5 (by rw [hn5]; exact hdx)
    exact ⟨c6, r05.trans (Reaches.of_step hst6), hs6, by rw [hd6, hdist5], hc6.trans hc5, hn5 ▸ hr6, ho6.trans ho5,
      i5.trans i6, h86 h85⟩
  · rw [if_neg hde] at hs5
    have hz : (distBaseExtra d).2 = 0 := Decidable.not_not.mp hde
    rw [hz, bitsAt_zero, Option.some.injEq] at hdx
    exact ⟨c5, r05, hs5, by rw [hdist5, ← hdx, Nat.add_zero], hc5, by rw [hz]; exact hr5, ho5, i5, h85⟩

theorem sim_copy {pos s p1 lx d p3 dx : Nat} {full : Array UInt8} (hflat : e.ring = false) (hend : e.outEnd ≤ e.outLen)
    (hsim : Sim e c outA pos full) (hs : c.r.state = sDecodeLitlen)
    (hd : decodeSym c.r.litCode e.inp pos = .sym s p1) (h1 : 256 < s) (h2 : s ≤ 285)
    (hlx : bitsAt e.inp p1 (lengthBaseExtra s).2 = some lx)
    (hdd : decodeSym c.r.distCode e.inp (p1 + (lengthBaseExtra s).2) = .sym d p3) (hd29 : d ≤ 29)
    (hdx : bitsAt e.inp p3 (distBaseExtra d).2 = some dx)
    (hback : (distBaseExtra d).1 + dx ≤ full.size)
    (hroom : full.size + ((lengthBaseExtra s).1 + lx) ≤ e.outEnd) :
    ∃ c9 outA9, Reaches e c outA c9 outA9 ∧ c9.r.state = sDecodeLitlen ∧
      Sim e c9 outA9 (p3 + (distBaseExtra d).2)
        (copyFull full ((distBaseExtra d).1 + dx) ((lengthBaseExtra s).1 + lx)) ∧ Inv c c9 := by
  obtain ⟨c6, r06, hs6, hd6, hc6, hr6, ho6, i6, h86⟩ := sim_distExtra hsim hs hd h1 h2 hlx hdd hd29 hdx
  obtain ⟨c9, outA9, hst9, hs9, ho9, heq9, hsz9, hi9, hn9, hb9, i9⟩ :=
    micro_match (outA := outA) (full := full) hflat hs6 (ho6.trans hsim.outPos) hsim.outEq hsim.size
      (by rw [hd6]; exact Nat.le_trans (distBase_pos d) (Nat.le_add_right _ _)) (by rw [hd6]; exact hback)
      (by rw [hc6]; exact hroom) hend
  rw [hd6, hc6] at heq9
  exact ⟨c9, outA9, r06.trans (Reaches.of_step hst9), hs9,
    ⟨hr6.of_eq hi9 hn9 hb9, by rw [hn9]; exact h86, by rw [ho9, hc6, copyFull_size], heq9, hsz9⟩, i6.trans i9⟩

theorem decodeTokens_size_le (pre : Array UInt8) (maxDist : Nat) (lit dist : Code) (data : Array UInt8) :
    ∀ (fuel pos : Nat) (o : Array UInt8) (toks : Array Token) (R : Nat × Array UInt8 × Array Token),
    decodeTokens pre maxDist lit dist data fuel pos o toks = .accept R → o.size ≤ R.2.1.size := by
  intro fuel
  induction fuel with
  | zero => intro pos o toks R h; simp [decodeTokens] at h
  | succ fuel ih =>
    intro pos o toks R h
    rw [decodeTokens] at h
    cases ht : decodeToken maxDist lit dist data pos (pre.size + o.size) with
    | lit b p => rw [ht] at h; have := ih _ _ _ _ h; simp at this; omega
    | eob p => rw [ht] at h; simp only [Verdict.accept.injEq] at h; rw [← h]; exact Nat.le_refl _
    | copy len dd p => rw [ht] at h; have := ih _ _ _ _ h; rw [copyMatch_size] at this; omega
    | reject w => rw [ht] at h; simp at h
    | truncated => rw [ht] at h; simp at h

theorem sim_tokens (hflat : e.ring = false) (hend : e.outEnd ≤ e.outLen) (pre : Array UInt8) (maxDist : Nat)
    (lit dist : Code) :
    ∀ (fuel pos : Nat) (o : Array UInt8) (toks : Array Token) (R : Nat × Array UInt8 × Array Token)
      (c : Ctx) (outA : Array UInt8),
    decodeTokens pre maxDist lit dist e.inp fuel pos o toks = .accept R →
    Sim e c outA pos (pre ++ o) → c.r.state = sDecodeLitlen → c.r.litCode = lit → c.r.distCode = dist →
    pre.size + R.2.1.size ≤ e.outEnd →
    ∃ c' outA', Reaches e c outA c' outA' ∧ c'.r.state = sBlockDone ∧ Sim e c' outA' R.1 (pre ++ R.2.1) ∧
      Inv c c' := by
  intro fuel
  induction fuel with
  | zero => intro pos o toks R c outA h; simp [decodeTokens] at h
  | succ fuel ih =>
    intro pos o toks R c outA h hsim hs hlit hdist hroom
    rw [decodeTokens] at h
    cases ht : decodeToken maxDist lit dist e.inp pos (pre.size + o.size) with
    | lit b p =>
      rw [ht] at h
      obtain ⟨s, hd, hlt, hb⟩ := decodeToken_lit_inv ht
      have hmono2 := decodeTokens_size_le pre maxDist lit dist e.inp _ _ _ _ _ h
      simp only [Array.size_push] at hmono2
      obtain ⟨c2, outA2, r2, hs2, hsim2, i2⟩ :=
        sim_lit hend hsim hs (by rw [hlit]; exact hd) hlt
          (by rw [Array.size_append]; exact Nat.lt_of_lt_of_le (Nat.add_lt_add_left (Nat.lt_of_succ_le hmono2) _) hroom)
      rw [← hb, ← Array.append_push] at hsim2
      obtain ⟨c', outA', r', hs', hsim', i'⟩ :=
        ih _ _ _ _ c2 outA2 h hsim2 hs2 (by rw [i2.lit, hlit]) (by rw [i2.dist, hdist]) hroom
      exact ⟨c', outA', r2.trans r', hs', hsim', i2.trans i'⟩
    | eob p =>
      rw [ht] at h
      simp only [Verdict.accept.injEq] at h
      have hd := decodeToken_eob_inv ht
      obtain ⟨c3, r3, hs3, hsim3, i3⟩ := sim_eob hsim hs (by rw [hlit]; exact hd)
      rw [← h]
      exact ⟨c3, outA, r3, hs3, hsim3, i3⟩
    | copy len dd p =>
      rw [ht] at h
      obtain ⟨s, p1, lx, d, p3, dx, hd, h1, h2, hlx, hdd, hd29, hdx, hlen, hddeq, hp, havail⟩ := decodeToken_copy_inv ht
      have hmono2 := decodeTokens_size_le pre maxDist lit dist e.inp _ _ _ _ _ h
      rw [copyMatch_size] at hmono2
      obtain ⟨c9, outA9, r9, hs9, hsim9, i9⟩ :=
        sim_copy hflat hend hsim hs (by rw [hlit]; exact hd) h1 h2 hlx (by rw [hdist]; exact hdd) hd29 hdx
          (by rw [Array.size_append, ← hddeq]; exact havail)
          (by rw [Array.size_append, ← hlen, Nat.add_assoc]; exact Nat.le_trans (Nat.add_le_add_left hmono2 _) hroom)
      rw [← hlen, ← hddeq, ← hp, ← copyMatch_eq pre dd len o havail] at hsim9
      obtain ⟨c', outA', r', hs', hsim', i'⟩ :=
        ih _ _ _ _ c9 outA9 h hsim9 hs9 (by rw [i9.lit, hlit]) (by rw [i9.dist, hdist]) hroom
      exact ⟨c', outA', r9.trans r', hs', hsim', i9.trans i'⟩
    | reject w => rw [ht] at h; simp at h
    | truncated => rw [ht] at h; simp at h

end Model.Core
