/-
A driver decoding through a ring buffer that it hands back to its start whenever it is full
(`runRing`), against the flat driver of `Lemmas/CoreSession` (`runCalls`) with the grants "up to the
end of the current lap": call by call the same results, and the ring keeps holding the last `W`
bytes of the flat buffer. No property statements here (see Props/C07).
-/
import MinizProof.Lemmas.CoreRingCalls
import MinizProof.Lemmas.CoreFlags
namespace Model.Core
open Spec

def ringNext (W p : Nat) : Nat := if p = W then 0 else p
/-- the flat position at which the current lap started -/
def baseNext (W base p : Nat) : Nat := if p = W then base + W else base

theorem ringNext_self (W : Nat) : ringNext W W = 0 := if_pos rfl
theorem ringNext_ne {W p : Nat} (h : p ≠ W) : ringNext W p = p := if_neg h
theorem ringNext_lt {W p : Nat} (h : p < W) : ringNext W p = p := ringNext_ne (Nat.ne_of_lt h)
theorem baseNext_self (W base : Nat) : baseNext W base W = base + W := if_pos rfl
theorem baseNext_ne {W base p : Nat} (h : p ≠ W) : baseNext W base p = base := if_neg h

theorem ringNext_bound {W p : Nat} (h0 : 0 < W) (h : p ≤ W) : ringNext W p < W := by
  by_cases hp : p = W
  · rw [hp, ringNext_self]; exact h0
  · rw [ringNext_ne hp]; exact Nat.lt_of_le_of_ne h hp

theorem baseNext_add_ringNext (W base p : Nat) : baseNext W base p + ringNext W p = base + p := by
  by_cases hp : p = W
  · rw [hp, baseNext_self, ringNext_self]; rfl
  · rw [baseNext_ne hp, ringNext_ne hp]

theorem baseNext_le (W base p : Nat) : base ≤ baseNext W base p ∧ baseNext W base p ≤ base + W := by
  by_cases hp : p = W
  · rw [hp, baseNext_self]; exact ⟨Nat.le_add_right _ _, Nat.le_refl _⟩
  · rw [baseNext_ne hp]; exact ⟨Nat.le_refl _, Nat.le_add_right _ _⟩

theorem RingRel.next {W base p : Nat} {oR oF : Array UInt8} (h : RingRel W base p oR oF) :
    RingRel W (baseNext W base p) (ringNext W p) oR oF := by
  by_cases hp : p = W
  · subst hp; rw [baseNext_self, ringNext_self]; exact h.handBack
  · rw [baseNext_ne hp, ringNext_ne hp]; exact h

theorem suspended_of_status {a b : Res} (h : a.status = b.status) (hs : suspended a) : suspended b := by
  unfold suspended at hs ⊢
  rwa [← h]

/-- The ring driver: each call is offered the unconsumed rest plus a new chunk and may fill the ring
    up to its end. Results are paired with the cursor the call started from. -/
def runRing (flags W : Nat) : Regs → Array UInt8 → Nat → Array UInt8 → List (Array UInt8) → List (Res × Nat)
  | _, _, _, _, [] => []
  | r, oR, p, carry, chunk :: rest =>
    let res := decompress r (carry ++ chunk) oR p (W - p) flags
    (res, p) :: runRing flags W res.r res.out (ringNext W (p + res.written))
      ((carry ++ chunk).extract res.consumed (carry ++ chunk).size) rest

/-- the grants of the flat driver that mirrors the ring driver: up to the end of the current lap -/
def ringGrants (flags W : Nat) : Regs → Array UInt8 → Nat → Nat → Array UInt8 → List (Array UInt8) →
    List (Array UInt8 × Nat)
  | _, _, _, _, _, [] => []
  | r, oR, p, base, carry, chunk :: rest =>
    let res := decompress r (carry ++ chunk) oR p (W - p) flags
    (chunk, base + W) :: ringGrants flags W res.r res.out (ringNext W (p + res.written))
      (baseNext W base (p + res.written)) ((carry ++ chunk).extract res.consumed (carry ++ chunk).size) rest

/-- call-by-call agreement of a ring run with a flat run whose first call writes at `pos`: same
    status, counts and registers, and the bytes each ring call delivered are the bytes the flat call wrote -/
def RunsAgree : Nat → List (Res × Nat) → List Res → Prop
  | _, [], [] => True
  | pos, (rr, p) :: rs, rf :: fs =>
      rr.status = rf.status ∧ rr.consumed = rf.consumed ∧ rr.written = rf.written ∧ rr.r = rf.r ∧
      rr.out.extract p (p + rr.written) = rf.out.extract pos (pos + rf.written) ∧
      RunsAgree (pos + rf.written) rs fs
  | _, _, _ => False

/-- THE RING DRIVER AGAINST THE FLAT DRIVER. As long as every ring call but the last is suspended and
    no call of the mirroring flat driver reports `Failed`, the two drivers agree call by call (status,
    counts, registers, delivered bytes). -/
theorem runRing_agrees (flagsR flagsF W : Nat) (hfl : FlagsRF flagsR flagsF) (hbig : 32768 ≤ W) :
    ∀ (chunks : List (Array UInt8)) (r : Regs) (oR oF : Array UInt8) (p base : Nat) (carry : Array UInt8),
    Bnd r → oR.size = W → badGeometry flagsR W 0 = false → p < W ∨ chunks = [] →
    RingRel W base p oR oF → base + W * (chunks.length + 1) ≤ oF.size →
    (∀ x ∈ (runRing flagsR W r oR p carry chunks).dropLast, suspended x.1) →
    (∀ res ∈ runCalls flagsF 0 r oF (base + p) carry (ringGrants flagsR W r oR p base carry chunks), res.status ≠ stFailed) →
    RunsAgree (base + p) (runRing flagsR W r oR p carry chunks)
      (runCalls flagsF 0 r oF (base + p) carry (ringGrants flagsR W r oR p base carry chunks)) := by
  intro chunks
  induction chunks with
  | nil => intro r oR oF p base carry _ _ _ _ _ _ _ _; exact trivial
  | cons chunk rest ih =>
    intro r oR oF p base carry hb hW hg0 hp hrel hsz hsus hnf
    have hpW : p < W := hp.elim id (fun h => absurd h (List.cons_ne_nil _ _))
    have hgR : badGeometry flagsR oR.size p = false := by rw [hW]; exact badGeometry_le hg0 (Nat.le_of_lt hpW)
    have hszW : base + W + W * (rest.length + 1) ≤ oF.size := by
      rw [List.length_cons, Nat.mul_succ, Nat.add_comm (W * _), ← Nat.add_assoc] at hsz; exact hsz
    have hbW : base + W ≤ oF.size := Nat.le_trans (Nat.le_add_right _ _) hszW
    -- one call on both sides; the flat grant reaches to the end of the lap
    rw [runRing] at hsus ⊢
    rw [ringGrants, runCalls, show 0 + (base + W) - (base + p) = min (W - p) (W - p) by
      rw [Nat.zero_add, Nat.add_sub_add_left, Nat.min_self]] at hnf ⊢
    obtain ⟨c1, c2, c3, c4, c5⟩ := decompress_ring_flat r (carry ++ chunk) oR oF p (W - p) flagsR flagsF W base hb hfl hW
      hbig hgR hbW hrel (hnf _ List.mem_cons_self)
    have hfR := decompress_facts r (carry ++ chunk) oR p (W - p) flagsR
    have hfF := decompress_facts r (carry ++ chunk) oF (base + p) (min (W - p) (W - p)) flagsF
    have hbnd := decompress_bnd r (carry ++ chunk) oF (base + p) (min (W - p) (W - p)) flagsF hb
      (badGeometry_flat hfl.flat (Nat.le_trans (Nat.add_le_add_left (Nat.le_of_lt hpW) base) hbW))
    generalize decompress r (carry ++ chunk) oR p (W - p) flagsR = resR at *
    generalize decompress r (carry ++ chunk) oF (base + p) (min (W - p) (W - p)) flagsF = resF at *
    have hwle : p + resR.written ≤ W := Nat.add_le_of_le_sub' (Nat.le_of_lt hpW) (hW ▸ hfR.room)
    have hseg : resR.out.extract p (p + resR.written) = resF.out.extract (base + p) (base + p + resF.written) := by
      rw [extract_ring (p := p) c5 hwle (hfF.size ▸ Nat.le_trans (Nat.add_le_add_left hwle base) hbW), ← c3, Nat.add_assoc]
    refine ⟨c1, c2, c3, c4, hseg, ?_⟩
    cases rest with
    | nil => exact trivial
    | cons chunk2 rest2 =>
      -- the first call is not the last: it is suspended, so its registers keep the discipline
      have hneR : runRing flagsR W resR.r resR.out (ringNext W (p + resR.written))
          ((carry ++ chunk).extract resR.consumed (carry ++ chunk).size) (chunk2 :: rest2) ≠ [] := by
        rw [runRing]; exact List.cons_ne_nil _ _
      rw [List.dropLast_cons_of_ne_nil hneR] at hsus
      have hs1 : suspended resF := suspended_of_status c1 (hsus (resR, p) List.mem_cons_self)
      have hposF : base + p + resF.written = baseNext W base (p + resR.written) + ringNext W (p + resR.written) := by
        rw [baseNext_add_ringNext, ← c3, Nat.add_assoc]
      rw [← c4, ← c2, hposF] at hnf ⊢
      exact ih resR.r resR.out resF.out (ringNext W (p + resR.written)) (baseNext W base (p + resR.written)) _
        (by rw [c4]; exact hbnd hs1) (hfR.size.trans hW) hg0 (.inl (ringNext_bound (Nat.zero_lt_of_lt hpW) hwle)) c5.next
        (hfF.size ▸ Nat.le_trans (Nat.add_le_add_right (baseNext_le ..).2 _) hszW)
        (fun x hmem => hsus x (List.mem_cons_of_mem _ hmem)) (fun res hmem => hnf res (List.mem_cons_of_mem _ hmem))

/-- concatenation of what each flat call wrote (first call writing at `pos`) -/
def delivered : Nat → List Res → Array UInt8
  | _, [] => #[]
  | pos, rf :: fs => rf.out.extract pos (pos + rf.written) ++ delivered (pos + rf.written) fs

/-- concatenation of what the caller takes out of the ring after each call -/
def deliveredRing : List (Res × Nat) → Array UInt8
  | [] => #[]
  | (rr, p) :: rs => rr.out.extract p (p + rr.written) ++ deliveredRing rs

theorem RunsAgree.spec : ∀ (rs : List (Res × Nat)) (fs : List Res) (pos : Nat), RunsAgree pos rs fs →
    rs.map (·.1.status) = fs.map (·.status) ∧ rs.map (·.1.consumed) = fs.map (·.consumed) ∧
    rs.map (·.1.written) = fs.map (·.written) ∧ rs.map (·.1.r) = fs.map (·.r) ∧
    deliveredRing rs = delivered pos fs := by
  intro rs
  induction rs with
  | nil => intro fs pos h; cases fs with | nil => exact ⟨rfl, rfl, rfl, rfl, rfl⟩ | cons _ _ => exact absurd h id
  | cons hd tl ih =>
    intro fs pos h
    obtain ⟨rr, p⟩ := hd
    cases fs with
    | nil => exact absurd h id
    | cons rf fs =>
      obtain ⟨h1, h2, h3, h4, hseg, hrest⟩ := h
      obtain ⟨i1, i2, i3, i4, i5⟩ := ih fs _ hrest
      exact ⟨congr (congrArg List.cons h1) i1, congr (congrArg List.cons h2) i2, congr (congrArg List.cons h3) i3,
        congr (congrArg List.cons h4) i4, congr (congrArg (· ++ ·) hseg) i5⟩

theorem RunsAgree.deliver : ∀ (rs : List (Res × Nat)) (fs : List Res) (pos : Nat),
    RunsAgree pos rs fs → deliveredRing rs = delivered pos fs :=
  fun rs fs pos h => (RunsAgree.spec rs fs pos h).2.2.2.2

theorem RunsAgree.last : ∀ (rs : List (Res × Nat)) (fs : List Res) (pos : Nat), RunsAgree pos rs fs →
    ∀ lr lf, rs.getLast? = some lr → fs.getLast? = some lf →
    lr.1.status = lf.status ∧ lr.1.r = lf.r := by
  intro rs fs pos h lr lf hl hf
  obtain ⟨h1, _, _, h4, _⟩ := RunsAgree.spec rs fs pos h
  have e1 := congrArg List.getLast? h1
  have e4 := congrArg List.getLast? h4
  rw [List.getLast?_map, List.getLast?_map, hl, hf] at e1 e4
  exact ⟨Option.some.inj e1, Option.some.inj e4⟩

theorem RunsAgree.sums : ∀ (rs : List (Res × Nat)) (fs : List Res) (pos : Nat), RunsAgree pos rs fs →
    ((rs.map (·.1.written)).sum = sumWritten fs) ∧ ((rs.map (·.1.consumed)).sum = sumConsumed fs) :=
  fun rs fs pos h => ⟨congrArg List.sum (RunsAgree.spec rs fs pos h).2.2.1, congrArg List.sum (RunsAgree.spec rs fs pos h).2.1⟩

theorem runCalls_frame (flags pos0 : Nat) : ∀ (calls : List (Array UInt8 × Nat)) (r : Regs) (out : Array UInt8)
    (pos : Nat) (carry : Array UInt8) (last : Res),
    (runCalls flags pos0 r out pos carry calls).getLast? = some last →
    last.out.size = out.size ∧ ∀ i, i < pos → last.out[i]? = out[i]? := by
  intro calls
  induction calls with
  | nil => intro r out pos carry last h; simp [runCalls] at h
  | cons hd tl ih =>
    intro r out pos carry last h
    obtain ⟨c, g⟩ := hd
    have hf := decompress_facts r (carry ++ c) out pos (pos0 + g - pos) flags
    rw [runCalls] at h
    cases tl with
    | nil =>
      rw [runCalls, List.getLast?_singleton] at h
      obtain rfl := Option.some.inj h
      exact ⟨hf.size, fun i hi => hf.frame i (Or.inl hi)⟩
    | cons hd2 tl2 =>
      rw [getLast?_cons_of_ne_nil _ (runCalls_ne_nil _ _ _ _ _ _ _ _)] at h
      obtain ⟨i1, i2⟩ := ih _ _ _ _ last h
      exact ⟨i1.trans hf.size, fun i hi => (i2 i (by omega)).trans (hf.frame i (Or.inl hi))⟩

theorem runCalls_delivered (flags pos0 : Nat) : ∀ (calls : List (Array UInt8 × Nat)) (r : Regs) (out : Array UInt8)
    (pos : Nat) (carry : Array UInt8) (last : Res),
    (runCalls flags pos0 r out pos carry calls).getLast? = some last →
    delivered pos (runCalls flags pos0 r out pos carry calls) =
      last.out.extract pos (pos + sumWritten (runCalls flags pos0 r out pos carry calls)) := by
  intro calls
  induction calls with
  | nil => intro r out pos carry last h; simp [runCalls] at h
  | cons hd tl ih =>
    intro r out pos carry last h
    obtain ⟨c, g⟩ := hd
    rw [runCalls] at h ⊢
    generalize decompress r (carry ++ c) out pos (pos0 + g - pos) flags = res1 at *
    cases tl with
    | nil =>
      rw [runCalls, List.getLast?_singleton] at h
      obtain rfl := Option.some.inj h
      simp [runCalls, delivered, sumWritten]
    | cons hd2 tl2 =>
      rw [getLast?_cons_of_ne_nil _ (runCalls_ne_nil _ _ _ _ _ _ _ _)] at h
      obtain ⟨hsz, hfr⟩ := runCalls_frame flags pos0 _ res1.r res1.out (pos + res1.written) _ last h
      show res1.out.extract pos (pos + res1.written) ++ delivered (pos + res1.written) _ = _
      rw [ih res1.r res1.out (pos + res1.written) _ last h,
        ← extract_frame res1.out last.out pos (pos + res1.written) hsz hfr, sumWritten_cons, ← Nat.add_assoc]
      exact (extract_cat last.out pos (pos + res1.written) _ (Nat.le_add_right _ _) (Nat.le_add_right _ _)).symm

def catList : List (Array UInt8) → Array UInt8
  | [] => #[]
  | c :: cs => c ++ catList cs

theorem catChunks_ringGrants (flags W : Nat) : ∀ (chunks : List (Array UInt8)) (r : Regs) (oR : Array UInt8)
    (p base : Nat) (carry : Array UInt8), catChunks (ringGrants flags W r oR p base carry chunks) = catList chunks := by
  intro chunks
  induction chunks with
  | nil => intro r oR p base carry; rfl
  | cons c cs ih =>
    intro r oR p base carry
    show c ++ catChunks (ringGrants flags W _ _ _ _ _ cs) = c ++ catList cs
    rw [ih]

theorem grantsMono_ringGrants (flags W : Nat) : ∀ (chunks : List (Array UInt8)) (r : Regs) (oR : Array UInt8)
    (p base : Nat) (carry : Array UInt8), grantsMono (ringGrants flags W r oR p base carry chunks) := by
  intro chunks
  induction chunks with
  | nil => intro r oR p base carry; exact trivial
  | cons c cs ih =>
    intro r oR p base carry
    cases cs with
    | nil => exact trivial
    | cons c2 cs2 =>
      exact ⟨Nat.add_le_add_right (baseNext_le ..).1 W, ih _ _ _ _ _⟩

theorem RunsAgree.suspended : ∀ (rs : List (Res × Nat)) (fs : List Res) (pos : Nat), RunsAgree pos rs fs →
    (∀ x ∈ rs.dropLast, Model.Core.suspended x.1) → ∀ f ∈ fs.dropLast, Model.Core.suspended f := by
  intro rs fs pos h hs f hf
  have e := congrArg List.dropLast (RunsAgree.spec rs fs pos h).1
  rw [← List.map_dropLast, ← List.map_dropLast] at e
  obtain ⟨x, hx, hxf⟩ := List.mem_map.mp (e ▸ List.mem_map_of_mem hf)
  exact suspended_of_status hxf (hs x hx)

theorem RunsAgree.all_suspended (rs : List (Res × Nat)) (fs : List Res) (pos : Nat) (h : RunsAgree pos rs fs)
    (hs : ∀ x ∈ rs, Model.Core.suspended x.1) : ∀ f ∈ fs, Model.Core.suspended f := by
  intro f hf
  obtain ⟨x, hx, hxf⟩ := List.mem_map.mp ((RunsAgree.spec rs fs pos h).1 ▸ List.mem_map_of_mem hf)
  exact suspended_of_status hxf (hs x hx)

theorem lastGrant_ringGrants_le (flags W : Nat) : ∀ (chunks : List (Array UInt8)) (r : Regs) (oR : Array UInt8)
    (p base : Nat) (carry : Array UInt8), chunks ≠ [] →
    lastGrant (ringGrants flags W r oR p base carry chunks) ≤ base + W * chunks.length := by
  intro chunks
  induction chunks with
  | nil => intro r oR p base carry h; exact absurd rfl h
  | cons c cs ih =>
    intro r oR p base carry _
    cases cs with
    | nil =>
      show base + W ≤ base + W * 1
      rw [Nat.mul_one]; exact Nat.le_refl _
    | cons c2 cs2 =>
      show lastGrant (ringGrants flags W _ _ _ _ _ (c2 :: cs2)) ≤ _
      generalize decompress r (carry ++ c) oR p (W - p) flags = res
      have := ih res.r res.out (ringNext W (p + res.written)) (baseNext W base (p + res.written))
        ((carry ++ c).extract res.consumed (carry ++ c).size) (List.cons_ne_nil _ _)
      rw [List.length_cons (a := c), Nat.mul_succ, Nat.add_comm (W * _), ← Nat.add_assoc]
      exact Nat.le_trans this (Nat.add_le_add_right (baseNext_le ..).2 _)

end Model.Core
