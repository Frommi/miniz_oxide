/-
What every theory of the decoder model (`Model.Core`) is built from. No property statements here.
  * The reading loop. `readBits` and `decodeHuff` are one loop, `pullAux`, with two deciders
    (`readBits_eq`, `decodeHuff_eq`); a fact about both is proved once, along the pulls (`pullBits_ind`)
    or, when the same read is looked at from another call, by commuting the loop with a map of
    contexts (`pullAux_map`).
  * The three shapes of a state that reads (`readBits_cases`, `decodeHuff_cases`, `readByte_cases`:
    starved exit or continuation), and the same shapes under a function of transitions (`map_read`,
    `map_byte`, `map_ite`; `Lemmas/CoreShift`, `CoreRing`, `CoreFlags` instantiate it).
  * `stepAt_cases`, the dispatch principle: a per-state theory (`step_ok`, `step_dec`, `step_shift`,
    `step_split`, `step_grow`, `step_I`, …) is one application of it, one argument per state.
  * `Step.stops`, `stopOf`, `stepAt_stop`: a state can stop with one status only, so a theory about
    one kind of stop (`Lemmas/CoreSplit`: starved; `CoreGrow`: no room) passes over all other states at once.
  * `SameOutside`: agreement of arrays outside a window, for the two copy loops.
-/
import MinizProof.Model.Core
import MinizProof.Lemmas.Attr
namespace Model.Core
open Spec

attribute [state_num] sStart sReadZlibCmf sReadZlibFlg sReadBlockHeader sBlockTypeNoCompression sRawHeader
  sRawMemcpy1 sRawMemcpy2 sReadTableSizes sReadHufflenTableCodeSize sReadLitlenDistTablesCodeSize
  sReadExtraBitsCodeSize sDecodeLitlen sWriteSymbol sReadExtraBitsLitlen sDecodeDistance sReadExtraBitsDistance
  sRawReadFirstByte sRawStoreFirstByte sWriteLenBytesToEnd sBlockDone sHuffDecodeOuterLoop1
  sHuffDecodeOuterLoop2 sReadAdler32 sDoneForever sBlockTypeUnexpected sBadCodeSizeSum
  sBadDistOrLiteralTableLength sBadTotalSymbols sBadZlibHeader sDistanceOutOfBounds sBadRawLength
  sBadCodeSizeDistPrevLookup sInvalidLitlen sInvalidDist

def SameOutside (a b : Array UInt8) (lo hi : Nat) : Prop :=
  a.size = b.size ∧ ∀ i, (i < lo ∨ hi ≤ i) → a[i]? = b[i]?

theorem SameOutside.refl (a : Array UInt8) (lo hi : Nat) : SameOutside a a lo hi := ⟨rfl, fun _ _ => rfl⟩

theorem SameOutside.mono {a b : Array UInt8} {lo hi lo' hi' : Nat} (h : SameOutside a b lo hi)
    (h1 : lo' ≤ lo) (h2 : hi ≤ hi') : SameOutside a b lo' hi' :=
  ⟨h.1, fun i hi => h.2 i (by omega)⟩

theorem SameOutside.trans {a b c : Array UInt8} {lo hi : Nat} (h1 : SameOutside a b lo hi)
    (h2 : SameOutside b c lo hi) : SameOutside a c lo hi :=
  ⟨h1.1.trans h2.1, fun i hi => (h1.2 i hi).trans (h2.2 i hi)⟩

theorem sameOutside_set (a : Array UInt8) (p : Nat) (v : UInt8) :
    SameOutside (a.setIfInBounds p v) a p (p + 1) := by
  refine ⟨by simp, fun i hi => ?_⟩
  rw [Array.getElem?_setIfInBounds]
  have : p ≠ i := by omega
  simp [this]

theorem copyIn_sameOutside (inp : Array UInt8) (n : Nat) : ∀ (out : Array UInt8) (p q : Nat),
    SameOutside (copyIn inp out p q n) out p (p + n) := by
  induction n with
  | zero => intro out p q; exact SameOutside.refl _ _ _
  | succ n ih =>
    intro out p q
    unfold copyIn
    exact ((ih _ (p + 1) (q + 1)).mono (by omega) (by omega)).trans
      ((sameOutside_set out p _).mono (by omega) (by omega))

theorem copyBytes_sameOutside (ringSize : Nat) (ring : Bool) (n : Nat) : ∀ (out : Array UInt8) (p src : Nat),
    SameOutside (copyBytes out p src ringSize ring n) out p (p + n) := by
  induction n with
  | zero => intro out p src; exact SameOutside.refl _ _ _
  | succ n ih =>
    intro out p src
    unfold copyBytes
    exact ((ih _ (p + 1) (src + 1)).mono (by omega) (by omega)).trans
      ((sameOutside_set out p _).mono (by omega) (by omega))

/-- What one bit-level read may change: the bit buffer and the input cursor, nothing else. -/
structure ReadOK (inp : Array UInt8) (c c' : Ctx) : Prop where
  outPos : c'.outPos = c.outPos
  regs   : c'.r = { c.r with bitBuf := c'.r.bitBuf, numBits := c'.r.numBits }
  inLo   : c.inPos ≤ c'.inPos
  inHi   : c'.inPos ≤ inp.size

theorem ReadOK.refl {inp : Array UInt8} {c : Ctx} (h : c.inPos ≤ inp.size) : ReadOK inp c c :=
  ⟨rfl, rfl, Nat.le_refl _, h⟩

theorem ReadOK.trans {inp : Array UInt8} {a b c : Ctx} (h1 : ReadOK inp a b) (h2 : ReadOK inp b c) :
    ReadOK inp a c := by
  refine ⟨h2.outPos.trans h1.outPos, ?_, Nat.le_trans h1.inLo h2.inLo, h2.inHi⟩
  rw [h2.regs, h1.regs]

theorem ReadOK.state {inp : Array UInt8} {c c' : Ctx} (h : ReadOK inp c c') : c'.r.state = c.r.state := by
  rw [h.regs]

def pull (c : Ctx) (b : UInt8) : Ctx :=
  { c with r := { c.r with bitBuf := c.r.bitBuf ||| (b.toNat <<< c.r.numBits), numBits := c.r.numBits + 8 }, inPos := c.inPos + 1 }

theorem getElem?_some_lt {inp : Array UInt8} {i : Nat} {b : UInt8} (h : inp[i]? = some b) : i < inp.size :=
  (Array.getElem?_eq_some_iff.mp h).1

theorem getElem?_none_size {inp : Array UInt8} {i : Nat} (h : inp[i]? = none) (hi : i ≤ inp.size) :
    i = inp.size :=
  Nat.le_antisymm hi (Array.getElem?_eq_none_iff.mp h)

theorem pull_ok {inp : Array UInt8} {c : Ctx} {b : UInt8} (h : inp[c.inPos]? = some b) :
    ReadOK inp c (pull c b) :=
  ⟨rfl, rfl, Nat.le_succ _, getElem?_some_lt h⟩

/-- The reading loop of `readBitsAux` and `decodeHuffAux`: `dec buf n` says what the `n` buffered bits
    `buf` decide (how many bits go, and the value); while they decide nothing one more byte is pulled;
    `none` = input exhausted. -/
def pullAux (inp : Array UInt8) (dec : Nat → Nat → Option (Nat × Nat)) : Nat → Ctx → Ctx × Option Nat
  | 0, c => (c, none)
  | fuel + 1, c =>
    match dec c.r.bitBuf c.r.numBits with
    | some (n, v) => ({ c with r := { c.r with bitBuf := c.r.bitBuf >>> n, numBits := c.r.numBits - n } }, some v)
    | none =>
      match inp[c.inPos]? with
      | none => (c, none)
      | some b => pullAux inp dec fuel (pull c b)

/-- the loop with the fuel that `readBits` and `decodeHuff` give it -/
def pullBits (inp : Array UInt8) (dec : Nat → Nat → Option (Nat × Nat)) (c : Ctx) : Ctx × Option Nat :=
  pullAux inp dec (inp.size - c.inPos + 1) c

def bitsDec (amount buf n : Nat) : Option (Nat × Nat) :=
  if n < amount then none else some (amount, buf % 2 ^ amount)

def huffDec (code : Code) (buf n : Nat) : Option (Nat × Nat) :=
  match decodeBuf code buf n with
  | .sym s len => some (len, s)
  | .invalid => if n ≥ 1 then some (1, 286) else none
  | .short => none

theorem readBitsAux_eq (inp : Array UInt8) (amount : Nat) : ∀ (f : Nat) (c : Ctx),
    readBitsAux inp amount f c = pullAux inp (bitsDec amount) f c := by
  intro f
  induction f with
  | zero => intro c; rfl
  | succ f ih =>
    intro c
    unfold readBitsAux pullAux bitsDec
    by_cases h : c.r.numBits < amount
    · rw [if_pos h, if_pos h]
      cases inp[c.inPos]? with
      | none => rfl
      | some b => exact ih (pull c b)
    · rw [if_neg h, if_neg h]

theorem decodeHuffAux_eq (inp : Array UInt8) (code : Code) : ∀ (f : Nat) (c : Ctx),
    decodeHuffAux inp code f c = pullAux inp (huffDec code) f c := by
  intro f
  induction f with
  | zero => intro c; rfl
  | succ f ih =>
    intro c
    unfold decodeHuffAux pullAux huffDec
    cases decodeBuf code c.r.bitBuf c.r.numBits with
    | sym s len => rfl
    | invalid =>
      by_cases h : c.r.numBits ≥ 1
      · simp only [if_pos h]
      · simp only [if_neg h]
        cases inp[c.inPos]? with
        | none => rfl
        | some b => exact ih (pull c b)
    | short =>
      cases inp[c.inPos]? with
      | none => rfl
      | some b => exact ih (pull c b)

theorem readBits_eq (inp : Array UInt8) (amount : Nat) (c : Ctx) :
    readBits inp amount c = pullBits inp (bitsDec amount) c := readBitsAux_eq inp amount _ c

theorem decodeHuff_eq (inp : Array UInt8) (code : Code) (c : Ctx) :
    decodeHuff inp code c = pullBits inp (huffDec code) c := decodeHuffAux_eq inp code _ c

theorem bitsDec_some {amount buf nb n v : Nat} (h : bitsDec amount buf nb = some (n, v)) :
    n = amount ∧ amount ≤ nb ∧ v = buf % 2 ^ amount := by
  unfold bitsDec at h
  by_cases hlt : nb < amount
  · rw [if_pos hlt] at h; cases h
  · rw [if_neg hlt] at h; cases h; exact ⟨rfl, Nat.le_of_not_lt hlt, rfl⟩

theorem bitsDec_none {amount buf nb : Nat} (h : bitsDec amount buf nb = none) : nb < amount := by
  unfold bitsDec at h
  by_cases hlt : nb < amount
  · exact hlt
  · rw [if_neg hlt] at h; cases h

theorem decodeBufAux_len (c : Code) (buf n : Nat) : ∀ (fuel len used code first index s l : Nat),
    decodeBufAux c buf n fuel len used code first index = .sym s l → used < l ∧ l ≤ n := by
  intro fuel
  induction fuel with
  | zero => intro len used code first index s l h; simp [decodeBufAux] at h
  | succ fuel ih =>
    intro len used code first index s l h
    unfold decodeBufAux at h
    by_cases h1 : index ≥ c.syms.size
    · rw [if_pos h1] at h; cases h
    · rw [if_neg h1] at h
      by_cases h2 : used ≥ n
      · rw [if_pos h2] at h; cases h
      · rw [if_neg h2] at h
        by_cases h3 : code + buf >>> used % 2 < first + c.count.getD len 0
        · rw [if_pos h3] at h
          cases h
          omega
        · rw [if_neg h3] at h
          have := ih _ _ _ _ _ _ _ h
          omega

theorem decodeBuf_len {c : Code} {buf n s l : Nat} (h : decodeBuf c buf n = .sym s l) : 1 ≤ l ∧ l ≤ n := by
  have := decodeBufAux_len c buf n _ _ _ _ _ _ _ _ h
  omega

theorem huffDec_cases {code : Code} {buf nb n v : Nat} (h : huffDec code buf nb = some (n, v)) :
    decodeBuf code buf nb = .sym v n ∨ (decodeBuf code buf nb = .invalid ∧ 1 ≤ nb ∧ n = 1 ∧ v = 286) := by
  unfold huffDec at h
  cases hd : decodeBuf code buf nb with
  | sym s len => rw [hd] at h; cases h; exact .inl rfl
  | invalid =>
    rw [hd] at h
    by_cases h1 : nb ≥ 1
    · rw [if_pos h1] at h; cases h; exact .inr ⟨rfl, h1, rfl, rfl⟩
    · rw [if_neg h1] at h; cases h
  | short => rw [hd] at h; cases h

theorem huffDec_none {code : Code} {buf nb : Nat} (h : huffDec code buf nb = none) :
    decodeBuf code buf nb = .short ∨ nb = 0 := by
  unfold huffDec at h
  cases hd : decodeBuf code buf nb with
  | sym s len => rw [hd] at h; cases h
  | invalid =>
    rw [hd] at h
    by_cases h1 : nb ≥ 1
    · rw [if_pos h1] at h; cases h
    · exact .inr (by omega)
  | short => exact .inl rfl

theorem huffDec_some {code : Code} {buf nb n v : Nat} (h : huffDec code buf nb = some (n, v)) : 1 ≤ n ∧ n ≤ nb := by
  rcases huffDec_cases h with hs | ⟨_, h1, rfl, _⟩
  · exact decodeBuf_len hs
  · exact ⟨Nat.le_refl 1, h1⟩

section
variable {inp : Array UInt8} {dec : Nat → Nat → Option (Nat × Nat)}

theorem pullAux_fuel : ∀ (f1 f2 : Nat) (c : Ctx), inp.size - c.inPos < f1 → inp.size - c.inPos < f2 →
    pullAux inp dec f1 c = pullAux inp dec f2 c := by
  intro f1
  induction f1 with
  | zero => intro f2 c h; omega
  | succ f1 ih =>
    intro f2 c h1 h2
    obtain ⟨f2, rfl⟩ : ∃ k, f2 = k + 1 := ⟨f2 - 1, by omega⟩
    unfold pullAux
    cases dec c.r.bitBuf c.r.numBits with
    | some r => rfl
    | none =>
      cases hb : inp[c.inPos]? with
      | none => rfl
      | some b =>
        have := getElem?_some_lt hb
        exact ih f2 (pull c b) (by show inp.size - (c.inPos + 1) < f1; omega) (by show inp.size - (c.inPos + 1) < f2; omega)

theorem pullBits_eq (c : Ctx) : pullBits inp dec c =
    match dec c.r.bitBuf c.r.numBits with
    | some (n, v) => ({ c with r := { c.r with bitBuf := c.r.bitBuf >>> n, numBits := c.r.numBits - n } }, some v)
    | none =>
      match inp[c.inPos]? with
      | none => (c, none)
      | some b => pullBits inp dec (pull c b) := by
  unfold pullBits
  rw [pullAux]
  cases dec c.r.bitBuf c.r.numBits with
  | some r => rfl
  | none =>
    cases hb : inp[c.inPos]? with
    | none => rfl
    | some b =>
      have := getElem?_some_lt hb
      exact pullAux_fuel _ _ _ (by show inp.size - (c.inPos + 1) < _; omega) (Nat.lt_succ_self _)

theorem pullBits_ind {P : Ctx → Ctx × Option Nat → Prop}
    (hdec : ∀ c n v, dec c.r.bitBuf c.r.numBits = some (n, v) →
      P c ({ c with r := { c.r with bitBuf := c.r.bitBuf >>> n, numBits := c.r.numBits - n } }, some v))
    (hend : ∀ c, dec c.r.bitBuf c.r.numBits = none → inp[c.inPos]? = none → P c (c, none))
    (hpull : ∀ c b r, dec c.r.bitBuf c.r.numBits = none → inp[c.inPos]? = some b → P (pull c b) r → P c r)
    (c : Ctx) : P c (pullBits inp dec c) := by
  suffices h : ∀ f c, inp.size - c.inPos < f → P c (pullAux inp dec f c) from h _ c (Nat.lt_succ_self _)
  intro f
  induction f with
  | zero => intro c h; omega
  | succ f ih =>
    intro c hf
    unfold pullAux
    cases hd : dec c.r.bitBuf c.r.numBits with
    | some r => exact hdec c r.1 r.2 hd
    | none =>
      cases hb : inp[c.inPos]? with
      | none => exact hend c hd hb
      | some b =>
        have := getElem?_some_lt hb
        exact hpull c b _ hd hb (ih (pull c b) (by show inp.size - (c.inPos + 1) < f; omega))

theorem pullAux_map {inp' : Array UInt8} (m : Ctx → Ctx)
    (hbuf : ∀ c, (m c).r.bitBuf = c.r.bitBuf) (hnb : ∀ c, (m c).r.numBits = c.r.numBits)
    (hget : ∀ c, inp'[(m c).inPos]? = inp[c.inPos]?)
    (hdrop : ∀ c n, m { c with r := { c.r with bitBuf := c.r.bitBuf >>> n, numBits := c.r.numBits - n } } =
      { m c with r := { (m c).r with bitBuf := (m c).r.bitBuf >>> n, numBits := (m c).r.numBits - n } })
    (hpull : ∀ c b, m (pull c b) = pull (m c) b) : ∀ (f : Nat) (c : Ctx),
    pullAux inp' dec f (m c) = (m (pullAux inp dec f c).1, (pullAux inp dec f c).2) := by
  intro f
  induction f with
  | zero => intro c; rfl
  | succ f ih =>
    intro c
    have hd : dec (m c).r.bitBuf (m c).r.numBits = dec c.r.bitBuf c.r.numBits := by rw [hbuf, hnb]
    unfold pullAux
    rw [hd, hget]
    cases dec c.r.bitBuf c.r.numBits with
    | some r => exact congrArg (·, some r.2) (hdrop c r.1).symm
    | none =>
      cases inp[c.inPos]? with
      | none => rfl
      | some b => exact (hpull c b ▸ ih (pull c b) : pullAux inp' dec f (pull (m c) b) = _)

theorem pullBits_spec (c : Ctx) (hle : c.inPos ≤ inp.size) :
    let p := pullBits inp dec c
    ReadOK inp c p.1 ∧
    (p.2 = none → p.1.inPos = inp.size ∧ dec p.1.r.bitBuf p.1.r.numBits = none ∧
        p.1.r.numBits = c.r.numBits + 8 * (p.1.inPos - c.inPos)) ∧
    (∀ v, p.2 = some v → ∃ n buf nb, dec buf nb = some (n, v) ∧ p.1.r.numBits = nb - n ∧
        nb = c.r.numBits + 8 * (p.1.inPos - c.inPos)) := by
  refine pullBits_ind (P := fun c p => c.inPos ≤ inp.size → ReadOK inp c p.1 ∧
    (p.2 = none → p.1.inPos = inp.size ∧ dec p.1.r.bitBuf p.1.r.numBits = none ∧
        p.1.r.numBits = c.r.numBits + 8 * (p.1.inPos - c.inPos)) ∧
    (∀ v, p.2 = some v → ∃ n buf nb, dec buf nb = some (n, v) ∧ p.1.r.numBits = nb - n ∧
        nb = c.r.numBits + 8 * (p.1.inPos - c.inPos))) ?_ ?_ ?_ c hle
  · intro c n v hd hle
    dsimp only
    exact ⟨⟨rfl, rfl, Nat.le_refl _, hle⟩, (fun h => nomatch h),
      fun v' hv => ⟨n, _, _, Option.some.inj hv ▸ hd, rfl, by omega⟩⟩
  · intro c hd hb hle
    dsimp only
    exact ⟨ReadOK.refl hle, fun _ => ⟨getElem?_none_size hb hle, hd, by omega⟩, fun v hv => nomatch hv⟩
  · intro c b r hd hb ih hle
    have hok := pull_ok hb
    obtain ⟨h1, h2, h3⟩ := ih hok.inHi
    have hlo : c.inPos + 1 ≤ r.1.inPos := h1.inLo
    have e1 : ∀ x : Nat, c.r.numBits + 8 + 8 * (x - (c.inPos + 1)) = c.r.numBits + 8 * (x - c.inPos) ∨ x < c.inPos + 1 := by
      intro x; omega
    refine ⟨hok.trans h1, fun hn => ?_, fun v hv => ?_⟩
    · obtain ⟨a1, a2, a3⟩ := h2 hn
      exact ⟨a1, a2, a3.trans ((e1 _).resolve_right (by omega))⟩
    · obtain ⟨n, buf, nb, a1, a2, a3⟩ := h3 v hv
      exact ⟨n, buf, nb, a1, a2, a3.trans ((e1 _).resolve_right (by omega))⟩

end

theorem readBits_spec (inp : Array UInt8) (amount : Nat) (c : Ctx) (hle : c.inPos ≤ inp.size) :
    let p := readBits inp amount c
    ReadOK inp c p.1 ∧
    (p.2 = none → p.1.inPos = inp.size ∧ p.1.r.numBits < amount ∧
        p.1.r.numBits = c.r.numBits + 8 * (p.1.inPos - c.inPos)) ∧
    (∀ v, p.2 = some v → p.1.r.numBits + amount = c.r.numBits + 8 * (p.1.inPos - c.inPos)) := by
  rw [readBits_eq]
  obtain ⟨h1, h2, h3⟩ := pullBits_spec (dec := bitsDec amount) c hle
  refine ⟨h1, fun hn => ⟨(h2 hn).1, bitsDec_none (h2 hn).2.1, (h2 hn).2.2⟩, fun v hv => ?_⟩
  obtain ⟨n, buf, nb, a1, a2, a3⟩ := h3 v hv
  have := bitsDec_some a1
  omega

theorem decodeHuff_spec (inp : Array UInt8) (code : Code) (c : Ctx) (hle : c.inPos ≤ inp.size) :
    let p := decodeHuff inp code c
    ReadOK inp c p.1 ∧
    (p.2 = none → p.1.inPos = inp.size ∧ p.1.r.numBits = c.r.numBits + 8 * (p.1.inPos - c.inPos)) ∧
    (∀ v, p.2 = some v → ∃ l, 1 ≤ l ∧ p.1.r.numBits + l = c.r.numBits + 8 * (p.1.inPos - c.inPos)) := by
  rw [decodeHuff_eq]
  obtain ⟨h1, h2, h3⟩ := pullBits_spec (dec := huffDec code) c hle
  refine ⟨h1, fun hn => ⟨(h2 hn).1, (h2 hn).2.2⟩, fun v hv => ?_⟩
  obtain ⟨n, buf, nb, a1, a2, a3⟩ := h3 v hv
  have := huffDec_some a1
  exact ⟨n, this.1, by omega⟩

section
variable {e : Env} {c : Ctx} {out : Array UInt8} {P : Step → Prop}

theorem readBits_cases (hle : c.inPos ≤ e.inp.size) (amount : Nat) (k : Ctx → Nat → Step)
    (hnone : ∀ c1, ReadOK e.inp c c1 → c1.inPos = e.inp.size → P (.fin e.eoi c1 out))
    (hsome : ∀ c1 v, ReadOK e.inp c c1 →
      c1.r.numBits + amount = c.r.numBits + 8 * (c1.inPos - c.inPos) → P (k c1 v)) :
    P (match readBits e.inp amount c with
      | (c1, none) => .fin e.eoi c1 out
      | (c1, some v) => k c1 v) := by
  obtain ⟨h1, h2, h3⟩ := readBits_spec e.inp amount c hle
  generalize readBits e.inp amount c = p at *
  obtain ⟨c1, o⟩ := p
  cases o with
  | none => exact hnone c1 h1 (h2 rfl).1
  | some v => exact hsome c1 v h1 (h3 v rfl)

theorem decodeHuff_cases (hle : c.inPos ≤ e.inp.size) (code : Code) (k : Ctx → Nat → Step)
    (hnone : ∀ c1, ReadOK e.inp c c1 → c1.inPos = e.inp.size → P (.fin e.eoi c1 out))
    (hsome : ∀ c1 v, ReadOK e.inp c c1 →
      (∃ l, 1 ≤ l ∧ c1.r.numBits + l = c.r.numBits + 8 * (c1.inPos - c.inPos)) → P (k c1 v)) :
    P (match decodeHuff e.inp code c with
      | (c1, none) => .fin e.eoi c1 out
      | (c1, some v) => k c1 v) := by
  obtain ⟨h1, h2, h3⟩ := decodeHuff_spec e.inp code c hle
  generalize decodeHuff e.inp code c = p at *
  obtain ⟨c1, o⟩ := p
  cases o with
  | none => exact hnone c1 h1 (h2 rfl).1
  | some v => exact hsome c1 v h1 (h3 v rfl)

theorem readByte_cases (hle : c.inPos ≤ e.inp.size) (k : UInt8 → Step)
    (hnone : c.inPos = e.inp.size → P (.fin e.eoi c out))
    (hsome : ∀ b, c.inPos < e.inp.size → P (k b)) :
    P (match e.inp[c.inPos]? with
      | none => .fin e.eoi c out
      | some b => k b) := by
  cases hb : e.inp[c.inPos]? with
  | none => exact hnone (getElem?_none_size hb hle)
  | some b => exact hsome b (getElem?_some_lt hb)

end

/-! A function `M` of transitions (the same transition seen from another call) goes through the
    three reading shapes and through `if`; a leaf that is left out is closed by `rfl`. -/
section
variable {M : Step → Step}

theorem map_read {m : Ctx → Ctx} {r r' : Ctx × Option Nat} (hr : r' = (m r.1, r.2)) {st s : Int}
    {o o' : Array UInt8} {k k' : Ctx → Nat → Step}
    (hfin : ∀ c1, Step.fin s (m c1) o' = M (.fin st c1 o) := by intros; rfl)
    (hk : ∀ c1 v, k' (m c1) v = M (k c1 v) := by intros; rfl) :
    (match (generalizing := false) r' with
      | (c1, none) => Step.fin s c1 o'
      | (c1, some v) => k' c1 v) =
    M (match (generalizing := false) r with
      | (c1, none) => Step.fin st c1 o
      | (c1, some v) => k c1 v) := by
  subst hr
  obtain ⟨c1, _ | v⟩ := r
  · exact hfin c1
  · exact hk c1 v

theorem map_byte {x? x?' : Option UInt8} (hx : x?' = x?) {S S' : Step} {k k' : UInt8 → Step}
    (hS : S' = M S := by rfl) (hk : ∀ b, k' b = M (k b) := by intros; rfl) :
    (match (generalizing := false) x?' with
      | none => S'
      | some b => k' b) =
    M (match (generalizing := false) x? with
      | none => S
      | some b => k b) := by
  subst hx
  cases x?' with
  | none => exact hS
  | some b => exact hk b

theorem map_ite (p : Prop) [Decidable p] {A B A' B' : Step} (hA : A' = M A := by rfl) (hB : B' = M B := by rfl) :
    (if p then A' else B') = M (if p then A else B) :=
  hA ▸ hB ▸ (apply_ite M p A B).symm

end

theorem stepAt_failed (s : Nat) (hs : sDoneForever < s) (e : Env) (c : Ctx) (o : Array UInt8) :
    stepAt s e c o = .fin stFailed c o := by
  obtain ⟨k, rfl⟩ : ∃ k, s = k + 25 := ⟨s - 25, by unfold sDoneForever at hs; omega⟩
  -- `k + 25` fails every test of the dispatch
  rfl

theorem stepAt_done (e : Env) (c : Ctx) (o : Array UInt8) : stepAt sDoneForever e c o = .fin stDone c o := rfl

-- the rows are sealed, so that `stepAt` at a numeral is evaluated down to its row and the row is
-- not opened to be compared, test by test, with the dispatch
attribute [local irreducible] stStart stReadZlibCmf stReadZlibFlg stReadBlockHeader stBlockTypeNoCompression
  stRawHeader stRawReadFirstByte stRawStoreFirstByte stRawMemcpy1 stRawMemcpy2 stReadTableSizes
  stReadHufflenTableCodeSize stReadLitlenDistTablesCodeSize stReadExtraBitsCodeSize stDecodeLitlen stWriteSymbol
  stHuffDecodeOuterLoop1 stReadExtraBitsLitlen stDecodeDistance stReadExtraBitsDistance stMatch stBlockDone
  stReadAdler32 in
/-- Stated for (state number, state function) pairs so that a theory relating two contexts in the same
    state (another input, window or flag word) can instantiate both sides at once. -/
theorem stepAt_cases {P : Nat → (Env → Ctx → Array UInt8 → Step) → Prop}
    (hStart : P sStart stStart) (hZlibCmf : P sReadZlibCmf stReadZlibCmf) (hZlibFlg : P sReadZlibFlg stReadZlibFlg)
    (hBlockHeader : P sReadBlockHeader stReadBlockHeader)
    (hNoCompression : P sBlockTypeNoCompression stBlockTypeNoCompression)
    (hRawHeader : P sRawHeader stRawHeader) (hRawReadFirstByte : P sRawReadFirstByte stRawReadFirstByte)
    (hRawStoreFirstByte : P sRawStoreFirstByte stRawStoreFirstByte)
    (hRawMemcpy1 : P sRawMemcpy1 stRawMemcpy1) (hRawMemcpy2 : P sRawMemcpy2 stRawMemcpy2)
    (hTableSizes : P sReadTableSizes stReadTableSizes)
    (hHufflen : P sReadHufflenTableCodeSize stReadHufflenTableCodeSize)
    (hLitlenDist : P sReadLitlenDistTablesCodeSize stReadLitlenDistTablesCodeSize)
    (hExtraCodeSize : P sReadExtraBitsCodeSize stReadExtraBitsCodeSize)
    (hDecodeLitlen : P sDecodeLitlen stDecodeLitlen) (hWriteSymbol : P sWriteSymbol stWriteSymbol)
    (hOuterLoop1 : P sHuffDecodeOuterLoop1 stHuffDecodeOuterLoop1)
    (hExtraLitlen : P sReadExtraBitsLitlen stReadExtraBitsLitlen)
    (hDecodeDistance : P sDecodeDistance stDecodeDistance)
    (hExtraDistance : P sReadExtraBitsDistance stReadExtraBitsDistance)
    (hOuterLoop2 : P sHuffDecodeOuterLoop2 stMatch) (hWriteLenBytes : P sWriteLenBytesToEnd stMatch)
    (hBlockDone : P sBlockDone stBlockDone) (hAdler32 : P sReadAdler32 stReadAdler32)
    (hDone : P sDoneForever fun _ c o => .fin stDone c o)
    (hFailed : ∀ s, sDoneForever < s → P s fun _ c o => .fin stFailed c o) (s : Nat) : P s (stepAt s) := by
  by_cases hlt : sDoneForever < s
  · have : stepAt s = fun _ c o => .fin stFailed c o := funext fun e => funext fun c => funext (stepAt_failed s hlt e c)
    exact this ▸ hFailed s hlt
  · have hs : s ≤ 24 := Nat.le_of_not_lt hlt
    iterate 24 (cases hs with | refl => assumption | step hs => ?_)
    exact (Nat.le_zero.mp hs) ▸ hStart

-- sealed: a shape lemma is matched against a state function by unification, which must not try to
-- evaluate `readBits ..`, `decodeHuff ..` or `inp[i]?` under a `match`
attribute [local irreducible] readBits decodeHuff Array.instGetElem?NatLtSize

def Step.stops (S : Step) (p : Int → Prop) : Prop := ∀ st c o, S = .fin st c o → p st

theorem Step.stops.mono {S : Step} {p q : Int → Prop} (h : S.stops p) (hpq : ∀ st, p st → q st) : S.stops q :=
  fun st c o hS => hpq st (h st c o hS)

theorem stops_cont {c : Ctx} {o : Array UInt8} {p : Int → Prop} : (Step.cont c o).stops p :=
  fun _ _ _ h => nomatch h

theorem stops_fin {st : Int} {c : Ctx} {o : Array UInt8} {p : Int → Prop} (h : p st) : (Step.fin st c o).stops p :=
  fun _ _ _ hS => (Step.fin.inj hS).1 ▸ h

theorem stops_ite {q : Prop} [Decidable q] {A B : Step} {p : Int → Prop} (hA : A.stops p) (hB : B.stops p) :
    (if q then A else B).stops p := by
  split
  · exact hA
  · exact hB

theorem stops_read {r : Ctx × Option Nat} {k : Ctx → Nat → Step} {st : Int} {o : Array UInt8} {p : Int → Prop}
    (h : p st) (hk : ∀ c1 v, (k c1 v).stops p) :
    (match r with
      | (c1, none) => Step.fin st c1 o
      | (c1, some v) => k c1 v).stops p := by
  obtain ⟨c1, _ | v⟩ := r
  · exact stops_fin h
  · exact hk c1 v

theorem stops_readByte {x? : Option UInt8} {k : UInt8 → Step} {st : Int} {c : Ctx} {o : Array UInt8}
    {p : Int → Prop} (h : p st) (hk : ∀ x, (k x).stops p) :
    (match x? with
      | none => Step.fin st c o
      | some x => k x).stops p := by
  cases x? with
  | none => exact stops_fin h
  | some x => exact hk x

/-- The one status with which the automaton can stop in state `s`: lack of room in the four states
    that write from registers and in `RawMemcpy1` (which tests the room on behalf of `RawMemcpy2`),
    block boundary in `BlockDone`, `Done` / `Failed` in the states that do nothing else, starved
    everywhere else (`Start` and `HuffDecodeOuterLoop1` never stop). -/
def stopOf (e : Env) (s : Nat) : Int :=
  if s = sRawStoreFirstByte ∨ s = sRawMemcpy1 ∨ s = sWriteSymbol ∨ s = sHuffDecodeOuterLoop2 ∨ s = sWriteLenBytesToEnd
  then stHasMoreOutput
  else if s = sBlockDone then stBlockBoundary
  else if s = sDoneForever then stDone
  else if sDoneForever < s then stFailed
  else e.eoi

theorem stopOf_failed {s : Nat} (e : Env) (hs : sDoneForever < s) : stopOf e s = stFailed := by
  unfold stopOf
  rw [if_neg, if_neg, if_neg, if_pos hs] <;> simp only [state_num] at hs ⊢ <;> omega

theorem stepAt_stop (s : Nat) (e : Env) (c : Ctx) (out : Array UInt8) :
    (stepAt s e c out).stops (· = stopOf e s) :=
  stepAt_cases (s := s) (P := fun s f => (f e c out).stops (· = stopOf e s))
    (hStart := stops_cont)
    (hZlibCmf := stops_readByte rfl fun _ => stops_cont)
    (hZlibFlg := stops_readByte rfl fun _ => stops_cont)
    (hBlockHeader := stops_read rfl fun _ _ =>
      stops_ite stops_cont (stops_ite stops_cont (stops_ite stops_cont stops_cont)))
    (hNoCompression := stops_read rfl fun _ _ => stops_cont)
    (hRawHeader := stops_ite
      (stops_ite (stops_read rfl fun _ _ => stops_cont) (stops_readByte rfl fun _ => stops_cont))
      (stops_ite stops_cont (stops_ite stops_cont (stops_ite stops_cont stops_cont))))
    (hRawReadFirstByte := stops_read rfl fun _ _ => stops_cont)
    (hRawStoreFirstByte := stops_ite (stops_fin rfl) (stops_ite stops_cont stops_cont))
    (hRawMemcpy1 := stops_ite stops_cont (stops_ite (stops_fin rfl) stops_cont))
    (hRawMemcpy2 := stops_ite stops_cont (stops_fin rfl))
    (hTableSizes := stops_ite (stops_read rfl fun _ _ => stops_cont) (stops_ite stops_cont stops_cont))
    (hHufflen := stops_ite (stops_read rfl fun _ _ => stops_cont) stops_cont)
    (hLitlenDist := stops_ite
      (stops_read rfl fun _ _ => stops_ite stops_cont (stops_ite stops_cont stops_cont))
      (stops_ite stops_cont stops_cont))
    (hExtraCodeSize := stops_read rfl fun _ _ => stops_cont)
    (hDecodeLitlen := stops_read rfl fun _ _ => stops_cont)
    (hWriteSymbol := stops_ite stops_cont (stops_ite stops_cont (stops_fin rfl)))
    (hOuterLoop1 := stops_ite stops_cont (stops_ite stops_cont stops_cont))
    (hExtraLitlen := stops_read rfl fun _ _ => stops_cont)
    (hDecodeDistance := stops_read rfl fun _ _ => stops_ite stops_cont stops_cont)
    (hExtraDistance := stops_read rfl fun _ _ => stops_cont)
    (hOuterLoop2 := stops_ite stops_cont
      (stops_ite stops_cont (stops_ite (stops_fin rfl) (stops_ite stops_cont stops_cont))))
    (hWriteLenBytes := stops_ite stops_cont
      (stops_ite stops_cont (stops_ite (stops_fin rfl) (stops_ite stops_cont stops_cont))))
    (hBlockDone := stops_ite (stops_ite stops_cont stops_cont) (stops_ite (stops_fin rfl) stops_cont))
    (hAdler32 := stops_ite
      (stops_ite (stops_read rfl fun _ _ => stops_cont) (stops_readByte rfl fun _ => stops_cont)) stops_cont)
    (hDone := stops_fin rfl)
    (hFailed := fun _ hs => stops_fin (stopOf_failed e hs).symm)

end Model.Core
