/-
The streaming wrapper `inflate()` with its bytes (`Model/InflBytes`) against the ring driver of
`Lemmas/CoreRingRun`: the inner calls the wrapper makes over any sequence of caller calls are a run of
the ring driver, what it hands to the caller is what the ring driver delivers, and so — with
`Lemmas/CoreRingValid` — a valid stream fed through `inflate()` in any chunks with any output sizes
comes out as exactly its plaintext. Helper lemmas for Props/C13 / C03.
-/
import MinizProof.Model.InflBytes
import MinizProof.Lemmas.CoreRingValid
import MinizProof.Lemmas.CorePrefix
import MinizProof.Lemmas.CoreRingTheory
import MinizProof.Lemmas.CoreDone
import MinizProof.Lemmas.InflStream
namespace Model.Core
open Spec Model.InflB

theorem deliveredRing_append : ∀ (l1 l2 : List (Res × Nat)), deliveredRing (l1 ++ l2) = deliveredRing l1 ++ deliveredRing l2 := by
  intro l1
  induction l1 with
  | nil => intro l2; simp [deliveredRing]
  | cons hd tl ih =>
    intro l2
    obtain ⟨rr, p⟩ := hd
    show rr.out.extract p (p + rr.written) ++ deliveredRing (tl ++ l2) = (rr.out.extract p (p + rr.written) ++ deliveredRing tl) ++ deliveredRing l2
    rw [ih, Array.append_assoc]

theorem deliveredRing_single (rr : Res) (p : Nat) : deliveredRing [(rr, p)] = rr.out.extract p (p + rr.written) := by
  simp [deliveredRing]

/-- Handing over the first `n` of `a` pending bytes of a window of `S` bytes: what goes out followed by
    what stays pending is what was pending; the cursor wraps only when nothing stays. -/
theorem pending_split (d : Array UInt8) {S ofs a n : Nat} (hfit : ofs + a ≤ S) (hn : n ≤ a) :
    d.extract ofs (ofs + n) ++ d.extract ((ofs + n) % S) ((ofs + n) % S + (a - n)) = d.extract ofs (ofs + a) ∧
    ringNext S ((ofs + n) % S + (a - n)) = ringNext S (ofs + a) := by
  by_cases hlt : ofs + n < S
  · rw [Nat.mod_eq_of_lt hlt, show ofs + n + (a - n) = ofs + a by omega]
    exact ⟨(extract_cat d ofs (ofs + n) (ofs + a) (by omega) (by omega)).symm, rfl⟩
  · have he : ofs + n = S := by omega
    have ha : n = a := by omega
    subst ha
    rw [he, Nat.mod_self, Nat.sub_self, ringNext_self]
    exact ⟨by simp, ite_self 0⟩

/-- geometry of the hand-over cursor -/
structure WGeo (w : WB) : Prop where
  ofsLt : w.ofs < dictSize
  dsz   : w.dict.size = dictSize
  fits  : w.ofs + w.avail ≤ dictSize

theorem push_r (w : WB) (room : Nat) : (push w room).2.r = w.r := rfl

/-- `push_dict_out` on any window: the geometry is kept and what is handed over followed by what stays
    pending is what was pending. -/
theorem push_split {w : WB} (g : WGeo w) (room : Nat) :
    WGeo (push w room).2 ∧
    (push w room).1 ++ (push w room).2.dict.extract (push w room).2.ofs ((push w room).2.ofs + (push w room).2.avail) =
      w.dict.extract w.ofs (w.ofs + w.avail) ∧
    ((push w room).2.avail = 0 → (push w room).1 = w.dict.extract w.ofs (w.ofs + w.avail)) ∧
    (push w room).1.size = min w.avail room ∧ (push w room).2.avail = w.avail - min w.avail room ∧
    (push w room).2.last = w.last := by
  have hn : min w.avail room ≤ w.avail := Nat.min_le_left _ _
  have ⟨h1, h2⟩ := Model.Infl.window_advance g.fits hn
  refine ⟨⟨h1, g.dsz, h2⟩, (pending_split w.dict g.fits hn).1, fun h0 => ?_, ?_, rfl, rfl⟩
  · have ha : min w.avail room = w.avail := by have h0 : w.avail - min w.avail room = 0 := h0; omega
    show w.dict.extract w.ofs (w.ofs + min w.avail room) = _
    rw [ha]
  · show (w.dict.extract w.ofs (w.ofs + min w.avail room)).size = _
    have := g.dsz; have := g.fits
    rw [Array.size_extract]; omega

/-- The window after an inner call: everything the call wrote is pending. -/
theorem WGeo.call {w : WB} (g : WGeo w) (inp : Array UInt8) (flags : Nat) :
    WGeo { w with r := (decompress w.r inp w.dict w.ofs (dictSize - w.ofs) flags).r,
                  dict := (decompress w.r inp w.dict w.ofs (dictSize - w.ofs) flags).out,
                  last := (decompress w.r inp w.dict w.ofs (dictSize - w.ofs) flags).status,
                  avail := (decompress w.r inp w.dict w.ofs (dictSize - w.ofs) flags).written } := by
  have hf := decompress_facts w.r inp w.dict w.ofs (dictSize - w.ofs) flags
  have hfit : w.ofs + (decompress w.r inp w.dict w.ofs (dictSize - w.ofs) flags).written ≤ dictSize := by
    have := hf.wBudget; have := g.ofsLt; omega
  exact ⟨g.ofsLt, hf.size.trans g.dsz, hfit⟩

/-- The result code with which a round of `loopNone` returns after the decoder answered `st`, `avail`
    bytes stay pending and `inLeft`, `room` remain; `none` when it goes round again. -/
def loopExit (origIn : Nat) (st : Int) (avail inLeft room : Nat) : Option Int :=
  if st = stFailedCannotMakeProgress then some rBuf
  else if st < 0 then some rData
  else if st = stNeedsMoreInput ∧ origIn = 0 then some rBuf
  else if st = stDone ∨ inLeft = 0 ∨ room = 0 ∨ avail ≠ 0 then
    (if st = stDone ∧ avail = 0 then some rStreamEnd else some rOk)
  else none

theorem loopExit_spec {origIn : Nat} {st : Int} {avail inLeft room : Nat} {o : Option Int}
    (h : loopExit origIn st avail inLeft room = o) :
    match (generalizing := false) o with
    | some k =>
      (k = rBuf ∧ (st = stFailedCannotMakeProgress ∨ st = stNeedsMoreInput ∧ origIn = 0)) ∨ (k = rData ∧ st < 0) ∨
      (k = rStreamEnd ∧ st = stDone ∧ avail = 0) ∨
      (k = rOk ∧ ¬ st < 0 ∧ (st = stDone ∧ avail ≠ 0 ∨ st ≠ stDone ∧ (inLeft = 0 ∨ room = 0 ∨ avail ≠ 0)))
    | none => ¬ st < 0 ∧ st ≠ stDone ∧ inLeft ≠ 0 ∧ room ≠ 0 ∧ avail = 0 := by
  subst h
  unfold loopExit
  by_cases h1 : st = stFailedCannotMakeProgress
  · rw [if_pos h1]; exact Or.inl ⟨rfl, .inl h1⟩
  rw [if_neg h1]
  by_cases h2 : st < 0
  · rw [if_pos h2]; exact Or.inr (.inl ⟨rfl, h2⟩)
  rw [if_neg h2]
  by_cases h3 : st = stNeedsMoreInput ∧ origIn = 0
  · rw [if_pos h3]; exact Or.inl ⟨rfl, .inr h3⟩
  rw [if_neg h3]
  by_cases h4 : st = stDone ∨ inLeft = 0 ∨ room = 0 ∨ avail ≠ 0
  · rw [if_pos h4]
    by_cases h5 : st = stDone ∧ avail = 0
    · rw [if_pos h5]; exact Or.inr (.inr (.inl ⟨rfl, h5⟩))
    · rw [if_neg h5]; exact Or.inr (.inr (.inr ⟨rfl, h2, by omega⟩))
  · rw [if_neg h4]; exact ⟨h2, by omega⟩

theorem loopExit_done (origIn inLeft room : Nat) : loopExit origIn stDone 0 inLeft room = some rStreamEnd := by
  unfold loopExit
  rw [if_neg (by decide), if_neg (by decide), if_neg (fun h => absurd h.1 (by decide)), if_pos (.inl rfl), if_pos ⟨rfl, rfl⟩]

/-- One round of `loopNone`: the decoder's answer `rs`, then `bytes` handed over, leaving `w2`. -/
theorem loopNone_succ {flags origIn fuel : Nat} {w : WB} {inp : Array UInt8} {room c : Nat} {acc : Array UInt8} {rs : Res}
    (hres : decompress w.r inp w.dict w.ofs (dictSize - w.ofs) flags = rs) {bytes : Array UInt8} {w2 : WB}
    (hp : push { w with r := rs.r, dict := rs.out, last := rs.status, avail := rs.written } room = (bytes, w2)) :
    loopNone flags origIn (fuel + 1) w inp room c acc =
      (loopExit origIn rs.status w2.avail (inp.extract rs.consumed inp.size).size (room - bytes.size)).elim
        (loopNone flags origIn fuel w2 (inp.extract rs.consumed inp.size) (room - bytes.size) (c + rs.consumed) (acc ++ bytes))
        (fun k => (w2, ⟨c + rs.consumed, acc ++ bytes, k⟩)) := by
  rw [loopNone]
  simp only [hres, hp, loopExit, Option.elim_ite, Option.elim_some, Option.elim_none]

/-! The three branches of `inflateNone`. -/

theorem inflateNone_failed (flags : Nat) {w : WB} (inp : Array UInt8) (room : Nat) (hf : w.last < 0) :
    inflateNone flags w inp room = (w, ⟨0, #[], if w.last = stFailedCannotMakeProgress then rBuf else rData⟩) := by
  unfold inflateNone
  by_cases hc : w.last = stFailedCannotMakeProgress
  · rw [if_pos hc, if_pos hc]
  · rw [if_neg hc, if_pos hf, if_neg hc]

theorem inflateNone_pending (flags : Nat) {w : WB} (inp : Array UInt8) (room : Nat) (hf : ¬ w.last < 0) (ha : w.avail ≠ 0) :
    inflateNone flags w inp room = ((push w room).2, ⟨0, (push w room).1,
      if (push w room).2.last = stDone ∧ (push w room).2.avail = 0 then rStreamEnd else rOk⟩) := by
  unfold inflateNone
  rw [if_neg (fun hc : w.last = stFailedCannotMakeProgress => hf (hc ▸ (by decide : stFailedCannotMakeProgress < 0))), if_neg hf, if_pos ha]

theorem inflateNone_loop (flags : Nat) {w : WB} (inp : Array UInt8) (room : Nat) (hf : ¬ w.last < 0) (ha : w.avail = 0) :
    inflateNone flags w inp room = loopNone flags inp.size (inp.size + room + 2) w inp room 0 #[] := by
  unfold inflateNone
  rw [if_neg (fun hc : w.last = stFailedCannotMakeProgress => hf (hc ▸ (by decide : stFailedCannotMakeProgress < 0))), if_neg hf, if_neg (fun h => h ha)]

/-- The wrapper between two inner calls of a run whose inner calls so far (`K`: the chunks they were
    offered) were all suspended: its registers and window are the ring driver's, its cursor plus what
    is still to be handed over is the ring driver's cursor, the caller's unconsumed input is the ring
    driver's carry followed by what has been supplied since (`fed`), and what has been handed over so
    far (`D`) plus what is pending is what the ring driver delivered. -/
structure Running (flags : Nat) (K : List (Array UInt8)) (w : WB) (inBuf fed D : Array UInt8) (C : Nat) : Prop where
  sus   : ∀ x ∈ runRing flags dictSize {} (Array.replicate dictSize 0) 0 #[] K, suspended x.1
  regs  : w.r = (ringEnd flags dictSize {} (Array.replicate dictSize 0) 0 #[] K).1
  dict  : w.dict = (ringEnd flags dictSize {} (Array.replicate dictSize 0) 0 #[] K).2.1
  pos   : ringNext dictSize (w.ofs + w.avail) = (ringEnd flags dictSize {} (Array.replicate dictSize 0) 0 #[] K).2.2.1
  ofsLt : w.ofs < dictSize
  dsz   : w.dict.size = dictSize
  fits  : w.ofs + w.avail ≤ dictSize
  inb   : inBuf = (ringEnd flags dictSize {} (Array.replicate dictSize 0) 0 #[] K).2.2.2 ++ fed
  deliv : D ++ w.dict.extract w.ofs (w.ofs + w.avail) =
            deliveredRing (runRing flags dictSize {} (Array.replicate dictSize 0) 0 #[] K)
  last  : w.last = stNeedsMoreInput ∨ w.last = stHasMoreOutput
  /-- `C`: input consumed by the wrapper so far = input consumed by the ring driver's calls -/
  cons  : C = ((runRing flags dictSize {} (Array.replicate dictSize 0) 0 #[] K).map (·.1.consumed)).sum

theorem Running.fresh (flags : Nat) (fed : Array UInt8) : Running flags [] WB.fresh (#[] ++ fed) fed #[] 0 :=
  ⟨fun x hx => by simp [runRing] at hx, rfl, rfl, by show ringNext dictSize (0 + 0) = 0; decide, by show 0 < dictSize; decide, by simp [WB.fresh],
    by show 0 + 0 ≤ dictSize; decide, rfl, by simp [runRing, deliveredRing, WB.fresh], .inl rfl, by simp [runRing]⟩

theorem Running.wgeo {flags : Nat} {K : List (Array UInt8)} {w : WB} {inBuf fed D : Array UInt8} {C : Nat}
    (h : Running flags K w inBuf fed D C) : WGeo w := ⟨h.ofsLt, h.dsz, h.fits⟩

/-- `push_dict_out` keeps the relation: what is handed over moves from "pending" to "delivered". -/
theorem Running.push {flags : Nat} {K : List (Array UInt8)} {w : WB} {inBuf fed D : Array UInt8} {C : Nat}
    (h : Running flags K w inBuf fed D C) (room : Nat) :
    Running flags K (push w room).2 inBuf fed (D ++ (push w room).1) C := by
  obtain ⟨g2, hsplit, _⟩ := push_split h.wgeo room
  refine ⟨h.sus, h.regs, h.dict, ?_, g2.ofsLt, g2.dsz, g2.fits, h.inb, ?_, h.last, h.cons⟩
  · exact (pending_split w.dict h.fits (Nat.min_le_left _ room)).2.trans h.pos
  · rw [Array.append_assoc, hsplit]; exact h.deliv

/-- ONE INNER CALL of the wrapper (window drained), `rs` its answer, is the ring driver's next call; on a
    valid stream its status is one of four, and when it is `Done` what the ring driver has delivered is
    the plaintext. -/
theorem Running.next {flags : Nat} {V : Array UInt8 → Prop} {P : Array UInt8} {L : Nat} (hf : RingTheory flags V P L) {K : List (Array UInt8)} {w : WB}
    {inBuf fed D : Array UInt8} {C : Nat} (h : Running flags K w inBuf fed D C) (ha : w.avail = 0)
    (b : Array UInt8) (hvalid : V (catList (K ++ [fed]) ++ b)) {rs : Res}
    (hres : decompress w.r inBuf w.dict w.ofs (dictSize - w.ofs) flags = rs) :
    runRing flags dictSize {} (Array.replicate dictSize 0) 0 #[] (K ++ [fed]) =
      runRing flags dictSize {} (Array.replicate dictSize 0) 0 #[] K ++ [(rs, w.ofs)] ∧
    ringEnd flags dictSize {} (Array.replicate dictSize 0) 0 #[] (K ++ [fed]) =
      (rs.r, rs.out, ringNext dictSize (w.ofs + rs.written), inBuf.extract rs.consumed inBuf.size) ∧
    (rs.status = stDone ∨ rs.status = stHasMoreOutput ∨ rs.status = stNeedsMoreInput ∨
     rs.status = stFailedCannotMakeProgress) ∧
    (rs.status = stDone → D ++ rs.out.extract w.ofs (w.ofs + rs.written) = P ∧ C + rs.consumed = L) := by
  subst hres
  have hp : (ringEnd flags dictSize {} (Array.replicate dictSize 0) 0 #[] K).2.2.1 = w.ofs := by
    rw [← h.pos, ha, Nat.add_zero, ringNext_lt h.ofsLt]
  have ⟨s1, s2⟩ := runRing_snoc_end flags dictSize K fed {} (Array.replicate dictSize 0) 0 #[]
  rw [← h.regs, ← h.dict, hp, ← h.inb] at s1 s2
  obtain ⟨c, cs, hcs⟩ : ∃ c cs, K ++ [fed] = c :: cs := by
    cases hk : K ++ [fed] with
    | nil => simp at hk
    | cons c cs => exact ⟨c, cs, rfl⟩
  have hv : V (catList (c :: cs) ++ b) := hcs ▸ hvalid
  have hsus : ∀ x ∈ (runRing flags dictSize {} (Array.replicate dictSize 0) 0 #[] (c :: cs)).dropLast, suspended x.1 := by
    rw [← hcs, s1, List.dropLast_concat]; exact h.sus
  have hlast : (runRing flags dictSize {} (Array.replicate dictSize 0) 0 #[] (c :: cs)).getLast? =
      some (decompress w.r inBuf w.dict w.ofs (dictSize - w.ofs) flags, w.ofs) := by
    rw [← hcs, s1, List.getLast?_concat]
  refine ⟨s1, s2, hf.status c cs b hv hsus _ hlast, fun hdone => ?_⟩
  obtain ⟨hdel, hcons⟩ := hf.done c cs b hv hsus _ hlast hdone
  rw [← hcs, s1, deliveredRing_append, deliveredRing_single, ← h.deliv, ha, Nat.add_zero, Array.extract_empty_of_stop_le_start (Nat.le_refl _),
    Array.append_empty] at hdel
  rw [← hcs, s1, List.map_append, List.sum_append, ← h.cons] at hcons
  exact ⟨hdel, by simpa using hcons⟩

/-- After a suspended inner call the relation holds for the longer run: nothing new has been handed
    over yet, everything the call wrote is pending. -/
theorem Running.step {flags : Nat} {V : Array UInt8 → Prop} {P : Array UInt8} {L : Nat} (hf : RingTheory flags V P L) {K : List (Array UInt8)} {w : WB}
    {inBuf fed D : Array UInt8} {C : Nat} (h : Running flags K w inBuf fed D C) (ha : w.avail = 0)
    (b : Array UInt8) (hvalid : V (catList (K ++ [fed]) ++ b)) {rs : Res}
    (hres : decompress w.r inBuf w.dict w.ofs (dictSize - w.ofs) flags = rs) (hsusp : suspended rs) :
    Running flags (K ++ [fed]) { w with r := rs.r, dict := rs.out, last := rs.status, avail := rs.written }
      (inBuf.extract rs.consumed inBuf.size) #[] D (C + rs.consumed) := by
  obtain ⟨s1, s2, _⟩ := h.next hf ha b hvalid hres
  have g := hres ▸ h.wgeo.call inBuf flags
  refine ⟨?_, ?_, ?_, ?_, h.ofsLt, g.dsz, g.fits, ?_, ?_, ?_, ?_⟩
  · intro x hx
    rw [s1] at hx
    rcases List.mem_append.mp hx with hx | hx
    · exact h.sus x hx
    · simp only [List.mem_singleton] at hx; rw [hx]; exact hsusp
  · rw [s2]
  · rw [s2]
  · rw [s2]
  · rw [s2]; simp
  · rw [s1, deliveredRing_append, deliveredRing_single, ← h.deliv, ha, Nat.add_zero,
      Array.extract_empty_of_stop_le_start (Nat.le_refl _), Array.append_empty]
  · exact hsusp.symm.elim (fun h => .inr h) (fun h => .inl h)
  · rw [s1, List.map_append, List.sum_append, ← h.cons]; simp

theorem Running.feed {flags : Nat} {K : List (Array UInt8)} {w : WB} {inBuf fed D : Array UInt8} {C : Nat}
    (h : Running flags K w inBuf fed D C) (chunk : Array UInt8) :
    Running flags K w (inBuf ++ chunk) (fed ++ chunk) D C :=
  ⟨h.sus, h.regs, h.dict, h.pos, h.ofsLt, h.dsz, h.fits, by rw [h.inb, Array.append_assoc], h.deliv, h.last, h.cons⟩

def IsPrefix (X P : Array UInt8) : Prop := ∃ k, k ≤ P.size ∧ X = P.extract 0 k

theorem IsPrefix.refl (P : Array UInt8) : IsPrefix P P := ⟨P.size, Nat.le_refl _, by simp⟩

theorem IsPrefix.of_append {X Y P : Array UInt8} (h : IsPrefix (X ++ Y) P) : IsPrefix X P := by
  obtain ⟨k, hk, he⟩ := h
  have hsz : X.size + Y.size = k := by
    have := congrArg Array.size he
    rw [Array.size_append, Array.size_extract] at this; omega
  refine ⟨X.size, by omega, ?_⟩
  calc X = (X ++ Y).extract 0 X.size := by simp
    _ = (P.extract 0 k).extract 0 X.size := by rw [he]
    _ = P.extract 0 X.size := by
      rw [Array.extract_extract, Nat.zero_add, Nat.zero_add, Nat.min_eq_left (by omega)]

/-- THE STATE OF THE WRAPPER BETWEEN TWO CALLS on a valid stream of which `T` is still to come:
    running (the ring driver's state), or draining the tail of a finished stream. -/
def WInv (flags : Nat) (V : Array UInt8 → Prop) (P : Array UInt8) (L : Nat) (T : Array UInt8) (w : WB) (carry D : Array UInt8) (C : Nat) : Prop :=
  (∃ K fed, Running flags K w carry fed D C ∧ V (catList (K ++ [fed]) ++ T)) ∨
  (w.last = stDone ∧ 0 < w.avail ∧ WGeo w ∧ D ++ w.dict.extract w.ofs (w.ofs + w.avail) = P ∧ C = L ∧ DoneRegs flags w.r)

def Ended (flags : Nat) (w : WB) : Prop := w.last = stDone ∧ w.avail = 0 ∧ WGeo w ∧ DoneRegs flags w.r

theorem catList_snoc_empty (K : List (Array UInt8)) (fed : Array UInt8) :
    catList ((K ++ [fed]) ++ [#[]]) = catList (K ++ [fed]) := by
  rw [catList_append]; simp [catList]

theorem WInv.fresh {flags : Nat} {V : Array UInt8 → Prop} {P : Array UInt8} {L : Nat} {T : Array UInt8} (hv : V T) :
    WInv flags V P L T WB.fresh #[] #[] 0 := by
  refine .inl ⟨[], #[], by simpa using Running.fresh flags #[], ?_⟩
  have : catList (([] : List (Array UInt8)) ++ [#[]]) = #[] := by simp [catList]
  rw [this, Array.empty_append]; exact hv

theorem WInv.isPrefix {flags : Nat} {V : Array UInt8 → Prop} {P : Array UInt8} {L : Nat} (hf : RingTheory flags V P L) {T : Array UInt8} {w : WB}
    {carry D : Array UInt8} {C : Nat} (h : WInv flags V P L T w carry D C) : IsPrefix D P := by
  rcases h with ⟨K, fed, hrun, hv⟩ | ⟨_, _, _, hD, _, _⟩
  · cases K with
    | nil =>
      have hd : D ++ w.dict.extract w.ofs (w.ofs + w.avail) = #[] := hrun.deliv
      rw [(Array.append_eq_empty_iff.mp hd).1]; exact ⟨0, Nat.zero_le _, by simp⟩
    | cons c cs =>
      have e : catList ((c :: cs) ++ [fed]) ++ T = catList (c :: cs) ++ (fed ++ T) := by
        rw [catList_append]
        have : catList [fed] = fed := by simp [catList]
        rw [this, Array.append_assoc]
      rw [e] at hv
      obtain ⟨n, hn, hd⟩ := hf.pref c cs (fed ++ T) hv hrun.sus
      rw [← hrun.deliv] at hd
      exact IsPrefix.of_append ⟨n, hn, hd⟩
  · exact IsPrefix.of_append (by rw [hD]; exact IsPrefix.refl _)

/-- what one call must deliver: a status of the protocol (a buffer error only when the call was
    offered no input at all), counts within what was offered, progress when there is input and
    room; at the end of the stream the plaintext; otherwise the invariant again with the unconsumed
    input carried over -/
def CallOk (flags : Nat) (V : Array UInt8 → Prop) (P : Array UInt8) (L : Nat) (T : Array UInt8) (D inp : Array UInt8) (C room origIn c : Nat) (acc : Array UInt8)
    (out : WB × CallRes) : Prop :=
  (out.2.status = rOk ∨ out.2.status = rStreamEnd ∨ (out.2.status = rBuf ∧ origIn = 0)) ∧
  ∃ new n, out.2.out = acc ++ new ∧ out.2.consumed = c + n ∧ n ≤ inp.size ∧ new.size ≤ room ∧
    (0 < inp.size → 0 < room → 0 < n ∨ 0 < new.size ∨ out.2.status = rStreamEnd) ∧
    (if out.2.status = rStreamEnd then D ++ new = P ∧ C + n = L ∧ Ended flags out.1
     else WInv flags V P L T out.1 (inp.extract n inp.size) (D ++ new) (C + n))

theorem loop_ok {flags : Nat} {V : Array UInt8 → Prop} {P : Array UInt8} {L : Nat} (hf : RingTheory flags V P L) (T : Array UInt8) (origIn : Nat) :
    ∀ (fuel : Nat) (w : WB) (inp : Array UInt8) (room c : Nat) (acc : Array UInt8) (K : List (Array UInt8)) (fed D : Array UInt8) (C : Nat),
    Running flags K w inp fed D C → w.avail = 0 →
    V (catList (K ++ [fed]) ++ T) → room < fuel → inp.size ≤ origIn →
    CallOk flags V P L T D inp C room origIn c acc (loopNone flags origIn fuel w inp room c acc) := by
  intro fuel
  induction fuel with
  | zero =>
    intro w inp room c acc K fed D C h ha hv hfu
    exact absurd hfu (Nat.not_lt_zero _)
  | succ fuel ih =>
    intro w inp room c acc K fed D C h ha hv hfu horig
    have hfacts := decompress_facts w.r inp w.dict w.ofs (dictSize - w.ofs) flags
    have hncmp := decompress_more_ne_cmp flags hf.more w.r inp w.dict w.ofs (dictSize - w.ofs)
    have hdr := done_leaves_doneRegs w.r inp w.dict w.ofs (dictSize - w.ofs) flags
    have hgeo1 := h.wgeo.call inp flags
    generalize hres : decompress w.r inp w.dict w.ofs (dictSize - w.ofs) flags = rs at hfacts hncmp hdr hgeo1
    obtain ⟨_, _, hst, hdone⟩ := h.next hf ha T hv hres
    have hstep := h.step hf ha T hv hres
    obtain ⟨hgeo2, hsplit, hall, hbsz, hav2, hlast2⟩ := push_split hgeo1 room
    have hr2 := push_r { w with r := rs.r, dict := rs.out, last := rs.status, avail := rs.written } room
    have hpush := fun hs => (hstep hs).push room
    generalize hp : push { w with r := rs.r, dict := rs.out, last := rs.status, avail := rs.written } room = pr
      at hgeo2 hsplit hall hbsz hav2 hlast2 hr2 hpush
    obtain ⟨bytes, w2⟩ := pr
    dsimp only at hgeo2 hsplit hall hbsz hav2 hlast2 hr2 hpush
    rw [loopNone_succ hres hp]
    have hbr : bytes.size ≤ room := hbsz ▸ Nat.min_le_right _ _
    have hcons := hfacts.consumed
    -- a suspended inner call leaves the wrapper running, with the empty chunk fed
    have hsusp : ¬ rs.status < 0 → rs.status ≠ stDone → suspended rs ∧
        WInv flags V P L T w2 (inp.extract rs.consumed inp.size) (D ++ bytes) (C + rs.consumed) ∧
        Running flags (K ++ [fed]) w2 (inp.extract rs.consumed inp.size) #[] (D ++ bytes) (C + rs.consumed) ∧
        V (catList ((K ++ [fed]) ++ [#[]]) ++ T) := fun hnn hnd => by
      have hs : suspended rs := by
        rcases hst with h1 | h1 | h1 | h1
        · exact absurd h1 hnd
        · exact .inr h1
        · exact .inl h1
        · exact absurd h1 hncmp
      have hv2 : V (catList ((K ++ [fed]) ++ [#[]]) ++ T) := by rw [catList_snoc_empty]; exact hv
      exact ⟨hs, .inl ⟨K ++ [fed], #[], hpush hs, hv2⟩, hpush hs, hv2⟩
    -- a call that filled the window has something to hand over
    have hfull : rs.status = stHasMoreOutput → 0 < room → 0 < bytes.size := fun h1 hr => by
      have hw := hfacts.hmo h1
      have := h.ofsLt; have := h.dsz
      rw [hbsz]; omega
    -- a suspended call consumed all its input or filled the window
    have hprog : suspended rs → 0 < inp.size → 0 < room → 0 < rs.consumed ∨ 0 < bytes.size := fun hs hi hr =>
      hs.elim (fun h1 => .inl (by rw [hfacts.nmi (.inl h1)]; exact hi)) (fun h1 => .inr (hfull h1 hr))
    cases hx : loopExit origIn rs.status w2.avail (inp.extract rs.consumed inp.size).size (room - bytes.size) with
    | none =>
      rw [Option.elim_none]
      obtain ⟨hnn, hnd, hin, hroom, h0⟩ := loopExit_spec hx
      obtain ⟨hs, _, hrun2, hv2⟩ := hsusp hnn hnd
      have hsz' : (inp.extract rs.consumed inp.size).size = inp.size - rs.consumed := by
        rw [Array.size_extract]; omega
      -- input is left, so the call stopped on a full window
      have hhmo : rs.status = stHasMoreOutput :=
        hs.resolve_left fun h1 => hin (by rw [hsz', hfacts.nmi (.inl h1)]; omega)
      have hbpos : 0 < bytes.size := hfull hhmo (by omega)
      obtain ⟨hstat, new, n, ho, hcn, hnle, hnr, _, hrest⟩ := ih w2 (inp.extract rs.consumed inp.size) (room - bytes.size)
        (c + rs.consumed) (acc ++ bytes) (K ++ [fed]) #[] (D ++ bytes) (C + rs.consumed) hrun2 h0 hv2 (by omega) (by omega)
      refine ⟨hstat, bytes ++ new, rs.consumed + n, by rw [ho, Array.append_assoc], by rw [hcn, Nat.add_assoc],
        by omega, by rw [Array.size_append]; omega, fun _ _ => .inr (.inl (by rw [Array.size_append]; omega)), ?_⟩
      have hext : (inp.extract rs.consumed inp.size).extract n (inp.extract rs.consumed inp.size).size =
          inp.extract (rs.consumed + n) inp.size := by
        rw [Array.extract_extract, Array.size_extract]
        congr 1; omega
      rw [hext, Array.append_assoc, Nat.add_assoc] at hrest
      exact hrest
    | some k =>
      show CallOk flags V P L T D inp C room origIn c acc (w2, ⟨c + rs.consumed, acc ++ bytes, k⟩)
      rcases loopExit_spec hx with ⟨rfl, hb⟩ | ⟨rfl, hneg⟩ | ⟨rfl, hd, h0⟩ | ⟨rfl, hnn, hcase⟩
      · -- input ran out on a call that was offered none
        rcases hb with hb | ⟨hb, h0⟩
        · exact absurd hb hncmp
        obtain ⟨_, hInv, _⟩ := hsusp (by rw [hb]; decide) (by rw [hb]; decide)
        exact ⟨.inr (.inr ⟨rfl, h0⟩), bytes, rs.consumed, rfl, rfl, hcons, hbr, fun hi _ => absurd hi (by omega),
          (if_neg (by decide : rBuf ≠ rStreamEnd)).mpr hInv⟩
      · rcases hst with h1 | h1 | h1 | h1
        · rw [h1] at hneg; exact absurd hneg (by decide)
        · rw [h1] at hneg; exact absurd hneg (by decide)
        · rw [h1] at hneg; exact absurd hneg (by decide)
        · exact absurd h1 hncmp
      · -- the stream is finished and everything has been handed over
        obtain ⟨hD, hCL⟩ := hdone hd
        refine ⟨.inr (.inl rfl), bytes, rs.consumed, rfl, rfl, hcons, hbr, fun _ _ => .inr (.inr rfl), (if_pos rfl).mpr ?_⟩
        rw [hall h0]; exact ⟨hD, hCL, hlast2.trans hd, h0, hgeo2, hr2 ▸ hdr hd⟩
      · rcases hcase with ⟨hd, h0⟩ | ⟨hnd, _⟩
        · -- the stream is finished, its tail stays pending
          obtain ⟨hD, hCL⟩ := hdone hd
          refine ⟨.inl rfl, bytes, rs.consumed, rfl, rfl, hcons, hbr, fun _ hr => .inr (.inl (by rw [hbsz]; omega)),
            (if_neg (by decide : rOk ≠ rStreamEnd)).mpr (.inr ⟨hlast2.trans hd, Nat.pos_of_ne_zero h0, hgeo2, ?_, hCL, hr2 ▸ hdr hd⟩)⟩
          rw [Array.append_assoc, hsplit]; exact hD
        · obtain ⟨hs, hInv, _⟩ := hsusp hnn hnd
          exact ⟨.inl rfl, bytes, rs.consumed, rfl, rfl, hcons, hbr,
            fun hi hr => (hprog hs hi hr).elim .inl (fun h => .inr (.inl h)),
            (if_neg (by decide : rOk ≠ rStreamEnd)).mpr hInv⟩

theorem catList_feed (K : List (Array UInt8)) (fed chunk T : Array UInt8) :
    catList (K ++ [fed ++ chunk]) ++ T = catList (K ++ [fed]) ++ (chunk ++ T) := by
  rw [catList_append, catList_append]
  simp [catList, Array.append_assoc]

/-- ONE CALL of `inflate()` (not asking to finish) from any state of the invariant. -/
theorem call_ok {flags : Nat} {V : Array UInt8 → Prop} {P : Array UInt8} {L : Nat} (hf : RingTheory flags V P L) (chunk T : Array UInt8)
    (w : WB) (carry D : Array UInt8) (C room : Nat)
    (hinv : WInv flags V P L (chunk ++ T) w carry D C) :
    CallOk flags V P L T D (carry ++ chunk) C room (carry ++ chunk).size 0 #[] (inflateNone flags w (carry ++ chunk) room) := by
  have e1 : (carry ++ chunk).extract 0 (carry ++ chunk).size = carry ++ chunk := Array.extract_size
  rcases hinv with ⟨K, fed, hrun, hv⟩ | ⟨hlast, hav, hgeo, hD, hCL, hdr⟩
  · -- running
    have hl : ¬ w.last < 0 ∧ w.last ≠ stDone := by
      rcases hrun.last with h | h <;> rw [h] <;> decide
    have hrun' := hrun.feed chunk
    have hv' : V (catList (K ++ [fed ++ chunk]) ++ T) := by
      rw [catList_feed]; exact hv
    by_cases ha : w.avail = 0
    · rw [inflateNone_loop flags _ room hl.1 ha]
      exact loop_ok hf T _ _ w (carry ++ chunk) room 0 #[] K (fed ++ chunk) D C hrun' ha hv' (by omega) (Nat.le_refl _)
    · rw [inflateNone_pending flags _ room hl.1 ha]
      obtain ⟨_, _, _, hbsz, _, hlast2⟩ := push_split hrun.wgeo room
      rw [if_neg (fun hh => hl.2 (hlast2 ▸ hh.1))]
      refine ⟨.inl rfl, (push w room).1, 0, Array.empty_append.symm, rfl, Nat.zero_le _, hbsz ▸ Nat.min_le_right _ _,
        fun _ hr => .inr (.inl (by rw [hbsz]; omega)), (if_neg (by decide : rOk ≠ rStreamEnd)).mpr ?_⟩
      rw [e1]
      exact .inl ⟨K, fed ++ chunk, hrun'.push room, hv'⟩
  · -- draining the tail of a finished stream
    rw [inflateNone_pending flags _ room (by rw [hlast]; decide) (Nat.pos_iff_ne_zero.mp hav)]
    obtain ⟨hgeo2, hsplit, hall, hbsz, hav2, hlast2⟩ := push_split hgeo room
    have hbr : (push w room).1.size ≤ room := hbsz ▸ Nat.min_le_right _ _
    have hend : (push w room).2.last = stDone ∧ DoneRegs flags (push w room).2.r := ⟨hlast2.trans hlast, hdr⟩
    by_cases h0 : (push w room).2.avail = 0
    · rw [if_pos ⟨hend.1, h0⟩]
      refine ⟨.inr (.inl rfl), (push w room).1, 0, Array.empty_append.symm, rfl, Nat.zero_le _, hbr,
        fun _ _ => .inr (.inr rfl), (if_pos rfl).mpr ?_⟩
      rw [hall h0]; exact ⟨hD, hCL, hend.1, h0, hgeo2, hend.2⟩
    · rw [if_neg (fun hh => h0 hh.2)]
      refine ⟨.inl rfl, (push w room).1, 0, Array.empty_append.symm, rfl, Nat.zero_le _, hbr,
        fun _ hr => .inr (.inl (by rw [hbsz]; omega)), (if_neg (by decide : rOk ≠ rStreamEnd)).mpr ?_⟩
      rw [e1]
      refine .inr ⟨hend.1, Nat.pos_of_ne_zero h0, hgeo2, ?_, hCL, hend.2⟩
      rw [Array.append_assoc, hsplit]; exact hD

theorem ended_call (flags : Nat) (w : WB) (inp : Array UInt8) (room : Nat) (h : Ended flags w) :
    (inflateNone flags w inp room).2.status = rStreamEnd ∧ (inflateNone flags w inp room).2.consumed = 0 ∧
    (inflateNone flags w inp room).2.out = #[] ∧ Ended flags (inflateNone flags w inp room).1 := by
  obtain ⟨hlast, hav, hgeo, hdr⟩ := h
  have hbg : badGeometry flags w.dict.size w.ofs = false := badGeometry_false.mpr
    ⟨by rw [hgeo.dsz, show isPow2OrZero dictSize = true by decide]; exact Bool.and_false _, hgeo.dsz ▸ Nat.le_of_lt hgeo.ofsLt⟩
  obtain ⟨d1, d2, d3, _, d5⟩ := doneRegs_call w.r inp w.dict w.ofs (dictSize - w.ofs) flags hbg hdr
  have hgeo1 := hgeo.call inp flags
  rw [inflateNone_loop flags inp room (by rw [hlast]; decide) hav]
  generalize hres : decompress w.r inp w.dict w.ofs (dictSize - w.ofs) flags = rs at d1 d2 d3 d5 hgeo1
  obtain ⟨hgeo2, _, _, hbsz, hav2, hlast2⟩ := push_split hgeo1 room
  have hr2 := push_r { w with r := rs.r, dict := rs.out, last := rs.status, avail := rs.written } room
  generalize hp : push { w with r := rs.r, dict := rs.out, last := rs.status, avail := rs.written } room = pr
    at hgeo2 hbsz hav2 hlast2 hr2
  obtain ⟨bytes, w2⟩ := pr
  dsimp only at hgeo2 hbsz hav2 hlast2 hr2
  have h0 : w2.avail = 0 := by rw [hav2, d3]; rfl
  have hb : bytes = #[] := Array.eq_empty_of_size_eq_zero (by rw [hbsz, d3]; exact Nat.zero_min _)
  rw [show inp.size + room + 2 = (inp.size + room + 1) + 1 from rfl, loopNone_succ hres hp, d1, h0, loopExit_done]
  exact ⟨rfl, by show 0 + rs.consumed = 0; rw [d2], by show #[] ++ bytes = #[]; rw [hb]; rfl,
    hlast2.trans d1, h0, hgeo2, hr2 ▸ d5⟩

theorem runInfl_ended (flags : Nat) : ∀ (calls : List (Array UInt8 × Nat)) (w : WB) (carry : Array UInt8), Ended flags w →
    ∀ x ∈ runInfl flags w carry calls, x.2.2.status = rStreamEnd ∧ x.2.2.consumed = 0 ∧ x.2.2.out = #[] := by
  intro calls
  induction calls with
  | nil => intro w carry _ x hx; simp [runInfl] at hx
  | cons cr rest ih =>
    intro w carry h x hx
    obtain ⟨chunk, room⟩ := cr
    obtain ⟨e1, e2, e3, e4⟩ := ended_call flags w (carry ++ chunk) room h
    unfold runInfl at hx
    generalize hres : inflateNone flags w (carry ++ chunk) room = res at hx e1 e2 e3 e4
    obtain ⟨w', r⟩ := res
    simp only [List.mem_cons] at hx
    rcases hx with rfl | hx
    · exact ⟨e1, e2, e3⟩
    · exact ih w' _ e4 x hx

/-- WHAT A CALLER OF `inflate()` MAY RELY ON for a stream whose plaintext is `P`: each call (offered
    `n` bytes of input and `room` bytes of output space) returns Ok, StreamEnd or — only when it was
    offered no input — a buffer error; counts stay within what was offered; with input and room
    there is progress (or the end); what has been handed over so far is a prefix of `P`; and when
    stream end is reported it is all of `P`, the input consumed over all calls (`C` before these)
    is exactly `L`, the length of the encoded stream, and every later call reports stream end again,
    consuming and delivering nothing. -/
def Safe (P : Array UInt8) (L : Nat) : Array UInt8 → Nat → List (Nat × Nat × Model.InflB.CallRes) → Prop
  | _, _, [] => True
  | D, C, (n, room, r) :: rs =>
      (r.status = Model.InflB.rOk ∨ r.status = Model.InflB.rStreamEnd ∨ (r.status = Model.InflB.rBuf ∧ n = 0)) ∧
      r.consumed ≤ n ∧ r.out.size ≤ room ∧
      (0 < n → 0 < room → 0 < r.consumed ∨ 0 < r.out.size ∨ r.status = Model.InflB.rStreamEnd) ∧
      IsPrefix (D ++ r.out) P ∧
      (if r.status = Model.InflB.rStreamEnd then D ++ r.out = P ∧ C + r.consumed = L ∧
          (∀ x ∈ rs, x.2.2.status = Model.InflB.rStreamEnd ∧ x.2.2.consumed = 0 ∧ x.2.2.out = #[])
        else Safe P L (D ++ r.out) (C + r.consumed) rs)

theorem run_safe {flags : Nat} {V : Array UInt8 → Prop} {P : Array UInt8} {L : Nat} (hf : RingTheory flags V P L) (b0 : Array UInt8) :
    ∀ (calls : List (Array UInt8 × Nat)) (w : WB) (carry D : Array UInt8) (C : Nat),
    WInv flags V P L (catList (calls.map Prod.fst) ++ b0) w carry D C →
    Safe P L D C (runInfl flags w carry calls) := by
  intro calls
  induction calls with
  | nil => intro w carry D C _; exact trivial
  | cons cr rest ih =>
    intro w carry D C hinv
    obtain ⟨chunk, room⟩ := cr
    have hT : catList (((chunk, room) :: rest).map Prod.fst) ++ b0 = chunk ++ (catList (rest.map Prod.fst) ++ b0) := by
      show (chunk ++ catList (rest.map Prod.fst)) ++ b0 = _
      rw [Array.append_assoc]
    rw [hT] at hinv
    obtain ⟨hstat, new, n, ho, hc, hnle, hnr, hprog, hrest⟩ := call_ok hf chunk _ w carry D C room hinv
    unfold runInfl
    generalize hcall : inflateNone flags w (carry ++ chunk) room = cr at hstat ho hc hprog hrest
    obtain ⟨w', r⟩ := cr
    dsimp only at hstat ho hc hprog hrest ⊢
    have ho' : r.out = new := by rw [ho]; simp
    have hc' : r.consumed = n := by rw [hc]; simp
    refine ⟨hstat, by rw [hc']; exact hnle, by rw [ho']; exact hnr, by rw [hc', ho']; exact hprog, ?_⟩
    rw [ho', hc']
    by_cases he : r.status = rStreamEnd
    · rw [if_pos he] at hrest ⊢
      exact ⟨hrest.1 ▸ IsPrefix.refl P, hrest.1, hrest.2.1, runInfl_ended flags rest w' _ hrest.2.2⟩
    · rw [if_neg he] at hrest ⊢
      exact ⟨hrest.isPrefix hf, ih w' _ _ _ hrest⟩

/-- THE FIRST-CALL `Finish` SHORTCUT on a valid stream (any format with a flat theory): with room for
    the plaintext the call reports stream end and has written exactly the plaintext; without, it
    reports a buffer error and the state is dead (`Failed` remembered). -/
theorem finish_first_ok {fmtFlags : Nat} {V : Array UInt8 → Prop} {P : Array UInt8} {L : Nat}
    (T : FlatTheory (fmtFlags + fNonWrapping) V P L) (z out : Array UInt8) (hv : V z) :
    (P.size ≤ out.size → (inflateFinishFirst fmtFlags z out).1.status = rStreamEnd ∧
      (inflateFinishFirst fmtFlags z out).1.out = P ∧ (inflateFinishFirst fmtFlags z out).2 = stDone ∧
      (inflateFinishFirst fmtFlags z out).1.consumed = L) ∧
    (out.size < P.size → (inflateFinishFirst fmtFlags z out).1.status = rBuf ∧
      (inflateFinishFirst fmtFlags z out).2 = stFailed) := by
  constructor
  · intro hfit
    obtain ⟨h1, h2, h3, h4⟩ := T.fits z out out.size hv (by rw [Nat.min_self]; exact hfit)
    unfold inflateFinishFirst
    simp only [h1]
    rw [if_neg (by decide), if_neg (by decide)]
    simp only [if_true]
    refine ⟨trivial, ?_, trivial, h4⟩
    show (decompress {} z out 0 out.size (fmtFlags + fNonWrapping)).out.extract 0
      (decompress {} z out 0 out.size (fmtFlags + fNonWrapping)).written = P
    rw [h2]
    exact extract_eq_of_getElem? _ P (by rw [(decompress_facts {} z out 0 out.size (fmtFlags + fNonWrapping)).size]; exact hfit) h3
  · intro hbig
    have h1 := T.full z out out.size hv (by rw [Nat.min_self]; exact hbig)
    unfold inflateFinishFirst
    simp only [h1]
    rw [if_neg (by decide), if_neg (by decide), if_neg (by decide)]
    exact ⟨rfl, rfl⟩

end Model.Core

namespace Model.InflB

theorem delivered_fold : ∀ (l : List (Nat × Nat × CallRes)) (a b : Array UInt8),
    l.foldl (fun a r => a ++ r.2.2.out) (a ++ b) = a ++ l.foldl (fun a r => a ++ r.2.2.out) b := by
  intro l
  induction l with
  | nil => intro a b; rfl
  | cons x xs ih => intro a b; simp only [List.foldl_cons]; rw [Array.append_assoc]; exact ih a (b ++ x.2.2.out)

theorem delivered_cons (r : Nat × Nat × CallRes) (l : List (Nat × Nat × CallRes)) : delivered (r :: l) = r.2.2.out ++ delivered l := by
  unfold delivered
  simp only [List.foldl_cons]
  have := delivered_fold l r.2.2.out #[]
  simpa using this

theorem delivered_nil : delivered [] = #[] := rfl

theorem delivered_concat (l : List (Nat × Nat × CallRes)) (x : Nat × Nat × CallRes) :
    delivered (l ++ [x]) = delivered l ++ x.2.2.out := by
  simp [delivered, List.foldl_append]

end Model.InflB

namespace Model.Core
open Model.InflB

/-- The calls before the first stream end can be dropped: what they delivered and consumed is added
    to what came before. -/
theorem Safe.drop {P : Array UInt8} {L : Nat} : ∀ (k : Nat) (rs : List (Nat × Nat × CallRes)) (D : Array UInt8) (C : Nat),
    Safe P L D C rs → (∀ j, j < k → (rs[j]?.map (·.2.2.status)) ≠ some rStreamEnd) →
    Safe P L (D ++ Model.InflB.delivered (rs.take k)) (C + ((rs.take k).map (·.2.2.consumed)).sum) (rs.drop k)
  | 0, rs, D, C, h, _ => by
    rw [List.take_zero, delivered_nil, Array.append_empty]; exact h
  | k + 1, [], D, C, h, _ => trivial
  | k + 1, (n, room, r) :: rs, D, C, h, hb => by
    have h0 : r.status ≠ rStreamEnd := by simpa using hb 0 (Nat.succ_pos k)
    have hs := h.2.2.2.2.2
    rw [if_neg h0] at hs
    have := Safe.drop k rs (D ++ r.out) (C + r.consumed) hs (fun j hj => by simpa using hb (j + 1) (Nat.succ_lt_succ hj))
    rw [List.take_succ_cons, delivered_cons, ← Array.append_assoc, List.map_cons, List.sum_cons, ← Nat.add_assoc, List.drop_succ_cons]
    exact this

theorem safe_at {P : Array UInt8} {L : Nat} {rs : List (Nat × Nat × CallRes)} {D : Array UInt8} {C : Nat}
    (hs : Safe P L D C rs) {k : Nat} (hk : k < rs.length)
    (hb : ∀ j, j < k → (rs[j]?.map (·.2.2.status)) ≠ some rStreamEnd) :
    Safe P L (D ++ Model.InflB.delivered (rs.take k)) (C + ((rs.take k).map (·.2.2.consumed)).sum) (rs[k] :: rs.drop (k + 1)) := by
  have := hs.drop k rs D C hb
  rwa [List.drop_eq_getElem_cons hk] at this

end Model.Core
