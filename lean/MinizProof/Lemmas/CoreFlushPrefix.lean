/-
A PREFIX THAT ENDS AT A BLOCK BOUNDARY ON A BYTE BOUNDARY (what a sync / full flush leaves behind):
when the reference decoder reads `k` complete non-final blocks from the start of the input and the
last of them ends exactly at the end of the input, one call of the decoder model (flat buffer, room
to spare, more input announced) writes exactly what those blocks expand to, consumes all the input
and reports "needs more input" — everything supplied so far is decodable without anything further.
-/
import MinizProof.Lemmas.CoreRefine
import MinizProof.Lemmas.CoreZlib

namespace Model.Core
open Spec

/-- the reference decoder reads a run of complete non-final blocks from bit `pos` (output so far `o`)
    to bit `p2` (output `o2`) -/
inductive DecodesBlocks (pre : Array UInt8) (maxDist : Nat) (data : Array UInt8) : Nat → Array UInt8 → Nat → Array UInt8 → Prop
  | nil (pos : Nat) (o : Array UInt8) : DecodesBlocks pre maxDist data pos o pos o
  | cons {fuel pos p1 p2 : Nat} {o o1 o2 : Array UInt8} {info : BlockInfo} :
      inflateBlock pre maxDist data fuel pos o = .accept (p1, o1, info) → info.final = false →
      DecodesBlocks pre maxDist data p1 o1 p2 o2 → DecodesBlocks pre maxDist data pos o p2 o2

theorem DecodesBlocks.size_le {pre : Array UInt8} {maxDist : Nat} {data : Array UInt8} {pos p2 : Nat} {o o2 : Array UInt8}
    (h : DecodesBlocks pre maxDist data pos o p2 o2) : o.size ≤ o2.size := by
  induction h with
  | nil => exact Nat.le_refl _
  | cons hb _ _ ih => have := inflateBlock_size_le hb; simp only at this; omega

variable {e : Env}

theorem sim_prefix (hflat : e.ring = false) (hend : e.outEnd ≤ e.outLen)
    (hstop : hasFlag e.flags fStopOnBlockBoundary = false) {pre : Array UInt8} {maxDist : Nat}
    {pos p2 : Nat} {o o2 : Array UInt8} (h : DecodesBlocks pre maxDist e.inp pos o p2 o2) :
    ∀ (c : Ctx) (outA : Array UInt8), c.r.state = sReadBlockHeader → Sim e c outA pos (pre ++ o) → Shape c →
    pre.size + o2.size ≤ e.outEnd →
    ∃ c' outA', Reaches e c outA c' outA' ∧ c'.r.state = sReadBlockHeader ∧ Sim e c' outA' p2 (pre ++ o2) ∧ Shape c' := by
  induction h with
  | nil pos o => intro c outA hs hsim hsh _; exact ⟨c, outA, Reaches.refl _ _ _, hs, hsim, hsh⟩
  | cons hb hf hrest ih =>
    intro c outA hs hsim hsh hroom
    obtain ⟨c1, outA1, r1, hs1, hsim1, _, sh1⟩ :=
      sim_block_next hflat hend hstop hb (by rw [hf]; decide) hs hsim hsh
        (Nat.le_trans (Nat.add_le_add_left hrest.size_le _) hroom)
    obtain ⟨c', outA', r', hs', hsim', sh'⟩ := ih c1 outA1 hs1 hsim1 sh1 hroom
    exact ⟨c', outA', r1.trans r', hs', hsim', sh'⟩

theorem eoi_at_block_header {c : Ctx} {outA : Array UInt8} (hs : c.r.state = sReadBlockHeader)
    (hrep : Rep e.inp c (8 * e.inp.size)) (h8 : c.r.numBits < 8) :
    step e c outA = .fin e.eoi c outA ∧ c.inPos = e.inp.size := by
  have hle := hrep.inLe
  have hpe := hrep.posEq
  have hin : c.inPos = e.inp.size := by omega
  refine ⟨?_, hin⟩
  -- fewer than three bits buffered and no byte left to pull
  have hd : bitsDec 3 c.r.bitBuf c.r.numBits = none := if_pos (by omega)
  have hb : e.inp[c.inPos]? = none := by rw [hin]; exact Array.getElem?_eq_none (Nat.le_refl _)
  have hr : readBits e.inp 3 c = (c, none) := by rw [readBits_eq, pullBits_eq, hd, hb]
  rw [step_ReadBlockHeader hs]
  unfold stReadBlockHeader
  rw [hr]

/-- A call that arrives at a block header with the whole input used, more input announced and room
    to spare: "needs more input", everything consumed, the bytes decoded so far written. -/
theorem flush_finish {r : Regs} {inp out : Array UInt8} {outPos budget flags : Nat} {cB : Ctx} {outB o2 : Array UInt8}
    (hflat : hasFlag flags fNonWrapping = true) (hmore : hasFlag flags fHasMoreInput = true) (hpos : outPos ≤ out.size)
    (hreach : Reaches (callEnv inp out outPos budget flags) { r := r, inPos := 0, outPos := outPos } out cB outB)
    (hsB : cB.r.state = sReadBlockHeader)
    (hsimB : Sim (callEnv inp out outPos budget flags) cB outB (8 * inp.size) (out.extract 0 outPos ++ o2))
    (hroom : outPos + o2.size < min (outPos + budget) out.size) :
    (decompress r inp out outPos budget flags).status = stNeedsMoreInput ∧
    (decompress r inp out outPos budget flags).written = o2.size ∧
    (decompress r inp out outPos budget flags).consumed = inp.size ∧
    (∀ i, i < o2.size → (decompress r inp out outPos budget flags).out[outPos + i]? = o2[i]?) := by
  have hpre := size_extract_prefix hpos
  obtain ⟨hstepB, hinB⟩ := eoi_at_block_header (outA := outB) hsB hsimB.rep hsimB.nb8
  have heoi : (callEnv inp out outPos budget flags).eoi = stNeedsMoreInput := by
    show endOfInput flags = stNeedsMoreInput
    unfold endOfInput; rw [if_pos hmore]
  rw [heoi] at hstepB
  rw [decompress_of_reaches (badGeometry_flat hflat hpos) hreach hstepB]
  have hbytes := epilogue_bytes (flags := flags) (outEnd := min (outPos + budget) out.size) (st := stNeedsMoreInput)
    hpre hsimB.outPos hsimB.outEq
  have hoB := hsimB.outPos
  rw [Array.size_append, hpre] at hoB
  have hes : exitStatus stNeedsMoreInput cB (min (outPos + budget) out.size) = stNeedsMoreInput :=
    (exitStatus_cases _ _ _).resolve_right fun h => by have := h.2.2; omega
  refine ⟨?_, hbytes.1, by rw [epilogue_consumed, exitUndo_starved (.inl rfl), hinB]; exact Nat.sub_zero _, hbytes.2⟩
  rcases epilogue_status flags outPos (min (outPos + budget) out.size) stNeedsMoreInput cB outB with h | h
  · rw [h]; exact hes
  · rw [hes] at h; exact absurd h.2 (by decide)

/-- THE FLUSH-POINT THEOREM for the decoder model (raw stream, flat buffer, fresh decoder, more input
    announced, at least one byte of room to spare). -/
theorem flush_prefix_flat (r : Regs) (inp out : Array UInt8) (outPos budget flags maxDist : Nat) (p2 : Nat) (o2 : Array UInt8)
    (hstart : r.state = sStart) (hshape : r.rawHeader.size = 4 ∧ r.tableSizes.size = 3 ∧ r.lenCodes.size = 512)
    (hflat : hasFlag flags fNonWrapping = true) (hz : hasFlag flags fParseZlib = false)
    (hstop : hasFlag flags fStopOnBlockBoundary = false) (hmore : hasFlag flags fHasMoreInput = true)
    (hpos : outPos ≤ out.size)
    (hdec : DecodesBlocks (out.extract 0 outPos) maxDist inp 0 #[] p2 o2) (hp2 : p2 = 8 * inp.size)
    (hroom : outPos + o2.size < min (outPos + budget) out.size) :
    (decompress r inp out outPos budget flags).status = stNeedsMoreInput ∧
    (decompress r inp out outPos budget flags).written = o2.size ∧
    (decompress r inp out outPos budget flags).consumed = inp.size ∧
    (∀ i, i < o2.size → (decompress r inp out outPos budget flags).out[outPos + i]? = o2[i]?) := by
  have hpre := size_extract_prefix hpos
  obtain ⟨c1, r1, hs1, hsim1, hsh1⟩ :=
    sim_start_raw (e := callEnv inp out outPos budget flags) hstart hshape hz hpos rfl
  obtain ⟨cB, outB, rB, hsB, hsimB, _⟩ :=
    sim_prefix (callEnv_ring hflat) callEnv_outEnd_le hstop hdec c1 out hs1 hsim1 hsh1
      (by rw [hpre]; exact Nat.le_of_lt hroom)
  exact flush_finish hflat hmore hpos (r1.trans rB) hsB (hp2 ▸ hsimB) hroom

/-- THE SAME FOR A ZLIB STREAM: a valid two-byte header, then a run of complete non-final blocks from
    bit 16 that ends exactly at the end of the input (flat buffer, fresh decoder, more input announced,
    a byte of room to spare). The status is "needs more input" whatever the checksum flags are: the
    trailer has not been reached. -/
theorem flush_prefix_flat_zlib (r : Regs) (inp out : Array UInt8) (outPos budget flags maxDist : Nat) (p2 : Nat) (o2 : Array UInt8)
    (cmf flg : UInt8)
    (hstart : r.state = sStart) (hshape : r.rawHeader.size = 4 ∧ r.tableSizes.size = 3 ∧ r.lenCodes.size = 512)
    (hflat : hasFlag flags fNonWrapping = true) (hz : hasFlag flags fParseZlib = true)
    (hstop : hasFlag flags fStopOnBlockBoundary = false) (hmore : hasFlag flags fHasMoreInput = true)
    (hpos : outPos ≤ out.size)
    (h0 : inp[0]? = some cmf) (h1 : inp[1]? = some flg) (hv : zlibHeaderValid cmf.toNat flg.toNat = true)
    (hdec : DecodesBlocks (out.extract 0 outPos) maxDist inp 16 #[] p2 o2) (hp2 : p2 = 8 * inp.size)
    (hroom : outPos + o2.size < min (outPos + budget) out.size) :
    (decompress r inp out outPos budget flags).status = stNeedsMoreInput ∧
    (decompress r inp out outPos budget flags).written = o2.size ∧
    (decompress r inp out outPos budget flags).consumed = inp.size ∧
    (∀ i, i < o2.size → (decompress r inp out outPos budget flags).out[outPos + i]? = o2[i]?) := by
  have hpre := size_extract_prefix hpos
  obtain ⟨c3, r3, hs3, hsim3, hsh3, _⟩ :=
    sim_start_zlib (e := callEnv inp out outPos budget flags) hstart hshape hz (callEnv_ring hflat) hpos rfl h0 h1 hv
  obtain ⟨cB, outB, rB, hsB, hsimB, _⟩ :=
    sim_prefix (callEnv_ring hflat) callEnv_outEnd_le hstop hdec c3 out hs3 hsim3 hsh3 (by rw [hpre]; exact Nat.le_of_lt hroom)
  exact flush_finish hflat hmore hpos (r3.trans rB) hsB (hp2 ▸ hsimB) hroom

end Model.Core
