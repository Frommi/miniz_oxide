/-
What the definitions of `Spec/Huffman` compute, without reference to the decoder model: the length
histogram `countLens` entry by entry, the sorted symbol table `sortedSymsAux` as a list of levels, and
the one-round equations of the Kraft bookkeeping and of the counting walk `decodeSymAux`.
-/
import MinizProof.Spec.Huffman
namespace Spec

theorem countLens_toList (lens : Array Nat) :
    countLens lens = lens.toList.foldl (fun c l => if l < 16 then c.modify l (· + 1) else c) (Array.replicate 16 0) := by
  rw [countLens, Array.foldl_toList]

theorem countLens_replicate (l : Nat) (hl : l < 16) : ∀ (n : Nat) (c : Array Nat),
    (List.replicate n l).foldl (fun c l => if l < 16 then c.modify l (· + 1) else c) c = c.modify l (· + n) := by
  intro n
  induction n with
  | zero =>
    intro c
    ext i h1 h2
    · simp
    · simp only [List.replicate_zero, List.foldl_nil, Array.getElem_modify, Nat.add_zero, ite_self]
  | succ n ih =>
    intro c
    rw [List.replicate_succ, List.foldl_cons, if_pos hl, ih]
    ext i h1 h2
    · simp
    · simp only [Array.getElem_modify]
      split <;> omega

theorem kraftLeftAux_succ (count : Array Nat) (fuel len left : Nat) :
    kraftLeftAux count (fuel + 1) len left =
      if 2 * left < count.getD len 0 then none else kraftLeftAux count fuel (len + 1) (2 * left - count.getD len 0) := rfl

theorem decodeSymAux_bit (c : Code) (data : Array UInt8) (fuel len pos code first index : Nat) {b : Nat}
    (hi : index < c.syms.size) (hb : bitAt data pos = some b) :
    decodeSymAux c data (fuel + 1) len pos code first index =
      if code + b < first + c.count.getD len 0 then .sym (c.syms.getD (index + (code + b - first)) 0) (pos + 1)
      else decodeSymAux c data fuel (len + 1) (pos + 1) (2 * (code + b)) (2 * (first + c.count.getD len 0))
        (index + c.count.getD len 0) := by
  rw [decodeSymAux, if_neg (Nat.not_le.mpr hi), hb]

theorem decodeSymAux_sym {c : Code} {data : Array UInt8} {fuel len pos code first index s p : Nat}
    (h : decodeSymAux c data (fuel + 1) len pos code first index = .sym s p) :
    index < c.syms.size ∧ ∃ b, bitAt data pos = some b := by
  rw [decodeSymAux] at h
  by_cases hi : index ≥ c.syms.size
  · rw [if_pos hi] at h; cases h
  · cases hb : bitAt data pos with
    | none => rw [if_neg hi, hb] at h; cases h
    | some b => exact ⟨Nat.not_le.mp hi, b, rfl⟩

end Spec

namespace Model.Core
open Spec

def cntEq (lens : Array Nat) (l : Nat) : Nat := (List.range lens.size).countP (fun s => lens.getD s 0 = l)

def sumCnt (lens : Array Nat) : Nat → Nat → Nat
  | _, 0 => 0
  | len, f + 1 => cntEq lens len + sumCnt lens (len + 1) f

def level (lens : Array Nat) (len : Nat) : List Nat := (List.range lens.size).filter (fun s => lens.getD s 0 = len)

def levels (lens : Array Nat) : Nat → Nat → List Nat
  | _, 0 => []
  | len, f + 1 => level lens len ++ levels lens (len + 1) f

theorem level_length (lens : Array Nat) (len : Nat) : (level lens len).length = cntEq lens len := by
  unfold level cntEq
  rw [List.countP_eq_length_filter]

theorem levels_length (lens : Array Nat) : ∀ (f len : Nat), (levels lens len f).length = sumCnt lens len f := by
  intro f
  induction f with
  | zero => intro len; rfl
  | succ f ih => intro len; show (level lens len ++ levels lens (len + 1) f).length = _; rw [List.length_append, level_length, ih]; rfl

theorem foldl_push_eq (lens : Array Nat) (len : Nat) : ∀ (xs : List Nat) (acc : Array Nat),
    xs.foldl (fun a s => if lens.getD s 0 = len then a.push s else a) acc =
      acc ++ (xs.filter (fun s => lens.getD s 0 = len)).toArray := by
  intro xs
  induction xs with
  | nil => intro acc; simp
  | cons x xs ih =>
    intro acc
    rw [List.foldl_cons, ih, List.filter_cons]
    by_cases h : lens.getD x 0 = len
    · rw [if_pos h]
      have : decide (lens.getD x 0 = len) = true := by simp only [h, decide_true]
      rw [this]; simp
    · rw [if_neg h]
      have : decide (lens.getD x 0 = len) = false := by simp only [h, decide_false]
      rw [this]; simp

theorem sortedSymsAux_eq (lens : Array Nat) : ∀ (fuel len : Nat) (acc : Array Nat),
    sortedSymsAux lens fuel len acc = acc ++ (levels lens len fuel).toArray := by
  intro fuel
  induction fuel with
  | zero => intro len acc; simp [sortedSymsAux, levels]
  | succ fuel ih =>
    intro len acc
    unfold sortedSymsAux
    dsimp only
    rw [ih, foldl_push_eq]
    show _ = acc ++ (level lens len ++ levels lens (len + 1) fuel).toArray
    unfold level
    simp [Array.append_assoc]

theorem sortedSymsAux_size (lens : Array Nat) (fuel len : Nat) (acc : Array Nat) :
    (sortedSymsAux lens fuel len acc).size = acc.size + sumCnt lens len fuel := by
  rw [sortedSymsAux_eq, Array.size_append, ← levels_length]
  rfl

theorem mkCode_syms_size (lens : Array Nat) : (mkCode lens).syms.size = sumCnt lens 1 15 := by
  show (sortedSymsAux lens 15 1 #[]).size = _
  rw [sortedSymsAux_size]
  exact Nat.zero_add _

theorem sumCnt_split (lens : Array Nat) : ∀ (n a k : Nat), sumCnt lens a (n + k) = sumCnt lens a n + sumCnt lens (a + n) k := by
  intro n
  induction n with
  | zero => intro a k; simp [sumCnt]
  | succ n ih =>
    intro a k
    have : n + 1 + k = (n + k) + 1 := by omega
    rw [this]
    show cntEq lens a + sumCnt lens (a + 1) (n + k) = (cntEq lens a + sumCnt lens (a + 1) n) + _
    rw [ih]
    have : a + 1 + n = a + (n + 1) := by omega
    rw [this]; omega

theorem sumCnt_succ (lens : Array Nat) (a k : Nat) : sumCnt lens a (k + 1) = sumCnt lens a k + cntEq lens (a + k) := by
  rw [sumCnt_split lens k a 1]
  rfl

theorem sumCnt_le (lens : Array Nat) (a : Nat) {k n : Nat} (h : k ≤ n) : sumCnt lens a k ≤ sumCnt lens a n := by
  have := sumCnt_split lens k a (n - k)
  rw [show k + (n - k) = n by omega] at this
  omega

theorem sumCnt_zero (lens : Array Nat) : ∀ (k a : Nat), (∀ j, j < k → cntEq lens (a + j) = 0) → sumCnt lens a k = 0 := by
  intro k
  induction k with
  | zero => intro a _; rfl
  | succ k ih =>
    intro a h
    show cntEq lens a + sumCnt lens (a + 1) k = 0
    have h0 := h 0 (by omega)
    rw [Nat.add_zero] at h0
    rw [h0, ih (a + 1) (fun j hj => by have := h (j + 1) (by omega); rwa [show a + (j + 1) = a + 1 + j by omega] at this)]

theorem cntEq_zero_of_le {lens : Array Nat} {b l : Nat} (h : ∀ i, lens.getD i 0 ≤ b) (hl : b < l) : cntEq lens l = 0 := by
  unfold cntEq
  rw [List.countP_eq_zero]
  intro s _
  have := h s
  simp only [decide_eq_true_eq]
  omega

theorem countStep_getD : ∀ (xs : List Nat) (acc : Array Nat) (l0 : Nat), acc.size = 16 → l0 < 16 →
    ((xs.foldl (fun c l => if l < 16 then c.modify l (· + 1) else c) acc).getD l0 0 =
      acc.getD l0 0 + xs.countP (fun x => x = l0)) := by
  intro xs
  induction xs with
  | nil => intro acc l0 _ _; simp
  | cons x xs ih =>
    intro acc l0 hs hl
    rw [List.foldl_cons, List.countP_cons]
    by_cases hx : x < 16
    · rw [if_pos hx, ih _ l0 (by simp [hs]) hl]
      by_cases he : x = l0
      · subst he
        simp only [decide_true, ↓reduceIte]
        have : (acc.modify x (· + 1)).getD x 0 = acc.getD x 0 + 1 := by
          simp only [Array.getD_eq_getD_getElem?]
          rw [Array.getElem?_modify]
          have hlt : x < acc.size := by omega
          simp [hlt]
        rw [this]; omega
      · have : (acc.modify x (· + 1)).getD l0 0 = acc.getD l0 0 := by
          simp only [Array.getD_eq_getD_getElem?]
          rw [Array.getElem?_modify]
          simp [he]
        rw [this]
        simp [he]
    · rw [if_neg hx, ih _ l0 hs hl]
      have : x ≠ l0 := by omega
      simp [this]

theorem countP_range_getD (lens : Array Nat) (p : Nat → Bool) {n : Nat} (hn : n ≤ lens.size) :
    (List.range n).countP (fun s => p (lens.getD s 0)) = (lens.toList.take n).countP p := by
  have hmap : (List.range n).map (fun s => lens.getD s 0) = lens.toList.take n := by
    apply List.ext_getElem
    · simp only [List.length_map, List.length_range, List.length_take, Array.length_toList]; omega
    · intro i h1 h2
      simp only [List.length_map, List.length_range] at h1
      simp [Array.getD_eq_getD_getElem?, show i < lens.size by omega]
  rw [← hmap, List.countP_map]
  rfl

theorem cntEq_toList (lens : Array Nat) (l : Nat) : cntEq lens l = lens.toList.countP (· = l) := by
  rw [cntEq, countP_range_getD lens (· = l) (Nat.le_refl _), ← Array.length_toList, List.take_length]

theorem countLens_getD (lens : Array Nat) (l0 : Nat) (hl : l0 < 16) : (countLens lens).getD l0 0 = cntEq lens l0 := by
  rw [countLens_toList, countStep_getD _ _ l0 (by simp) hl, cntEq_toList]
  simp [Array.getD_eq_getD_getElem?, hl]

end Model.Core
