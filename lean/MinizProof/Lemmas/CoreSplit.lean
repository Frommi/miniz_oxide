/-
Suspending and resuming the decoder model at the end of an input chunk: reading primitives under
a prefix of the input versus the whole input, final results of runs, and the per-state relation
between a transition under the prefix and the same transition under the whole input.
The relation is stated once for any pair of calls and any suspending status (`Kept`, `StopRel`,
`Link`, run-level induction `run_link` over `Final` results); here it is instantiated with more input
behind the chunk and the starved status, in `Lemmas/CoreGrow` with a larger window and "has more
output". The half of `run_link` about the other stops is `run_ext_same` (`Lemmas/CoreSound`).
For Props/C07.
-/
import MinizProof.Lemmas.CoreReach
namespace Model.Core
open Spec

-- sealed while shape lemmas are matched against state functions (see `Lemmas/CoreBasic`)
attribute [local irreducible] readBits decodeHuff Array.instGetElem?NatLtSize

theorem getElem?_append_of_some {a b : Array UInt8} {i : Nat} {x : UInt8} (h : a[i]? = some x) :
    (a ++ b)[i]? = some x := by
  rw [Array.getElem?_append_left (getElem?_some_lt h)]; exact h

theorem pullBits_prefix (a b : Array UInt8) (dec : Nat → Nat → Option (Nat × Nat)) (c : Ctx) :
    ((pullBits a dec c).2 ≠ none → pullBits (a ++ b) dec c = pullBits a dec c) ∧
    ((pullBits a dec c).2 = none → pullBits (a ++ b) dec c = pullBits (a ++ b) dec (pullBits a dec c).1) := by
  refine pullBits_ind (P := fun c p => (p.2 ≠ none → pullBits (a ++ b) dec c = p) ∧
    (p.2 = none → pullBits (a ++ b) dec c = pullBits (a ++ b) dec p.1)) ?_ ?_ ?_ c
  · intro c n v hd
    exact ⟨fun _ => by rw [pullBits_eq, hd], fun h => nomatch h⟩
  · intro c hd hb
    exact ⟨fun h => absurd rfl h, fun _ => rfl⟩
  · intro c x r hd hb ih
    have : pullBits (a ++ b) dec c = pullBits (a ++ b) dec (pull c x) := by
      rw [pullBits_eq, hd, getElem?_append_of_some hb]
    rw [this]
    exact ih

theorem readBits_mono {a b : Array UInt8} {amount : Nat} {c c' : Ctx} {v : Nat}
    (h : readBits a amount c = (c', some v)) : readBits (a ++ b) amount c = (c', some v) := by
  rw [readBits_eq] at h ⊢
  exact ((pullBits_prefix a b _ c).1 (by rw [h]; exact Option.some_ne_none v)).trans h

theorem readBits_starve {a b : Array UInt8} {amount : Nat} {c c1 : Ctx}
    (h : readBits a amount c = (c1, none)) : readBits (a ++ b) amount c = readBits (a ++ b) amount c1 := by
  rw [readBits_eq] at h
  have := (pullBits_prefix a b (bitsDec amount) c).2
  rw [h] at this
  rw [readBits_eq, readBits_eq]
  exact this rfl

theorem decodeHuff_mono {a b : Array UInt8} {code : Code} {c c' : Ctx} {v : Nat}
    (h : decodeHuff a code c = (c', some v)) : decodeHuff (a ++ b) code c = (c', some v) := by
  rw [decodeHuff_eq] at h ⊢
  exact ((pullBits_prefix a b _ c).1 (by rw [h]; exact Option.some_ne_none v)).trans h

theorem decodeHuff_starve {a b : Array UInt8} {code : Code} {c c1 : Ctx}
    (h : decodeHuff a code c = (c1, none)) : decodeHuff (a ++ b) code c = decodeHuff (a ++ b) code c1 := by
  rw [decodeHuff_eq] at h
  have := (pullBits_prefix a b (huffDec code) c).2
  rw [h] at this
  rw [decodeHuff_eq, decodeHuff_eq]
  exact this rfl

def Env.ext (e : Env) (b : Array UInt8) : Env := { e with inp := e.inp ++ b }

@[simp] theorem Env.ext_eoi (e : Env) (b : Array UInt8) : (e.ext b).eoi = e.eoi := rfl
@[simp] theorem Env.ext_ring (e : Env) (b : Array UInt8) : (e.ext b).ring = e.ring := rfl
@[simp] theorem Env.ext_outEnd (e : Env) (b : Array UInt8) : (e.ext b).outEnd = e.outEnd := rfl
@[simp] theorem Env.ext_outLen (e : Env) (b : Array UInt8) : (e.ext b).outLen = e.outLen := rfl
@[simp] theorem Env.ext_flags (e : Env) (b : Array UInt8) : (e.ext b).flags = e.flags := rfl
@[simp] theorem Env.ext_inp (e : Env) (b : Array UInt8) : (e.ext b).inp = e.inp ++ b := rfl

/-- What a suspended transition leaves of the context it started from: every register but the bit
    buffer, which has only grown. -/
structure Kept (c c1 : Ctx) : Prop where
  regs : c1.r = { c.r with bitBuf := c1.r.bitBuf, numBits := c1.r.numBits }
  bits : c.r.numBits ≤ c1.r.numBits

theorem Kept.refl (c : Ctx) : Kept c c := ⟨rfl, Nat.le_refl _⟩

/-- How a transition `S` of a call relates to the transition function `F` of the same state in a call
    that differs from it in what makes the first suspend with status `st₀` (more input behind the
    chunk, a larger window): a continuing transition is the same transition; a stop with `st₀` leaves
    the buffer alone and a context from which `F` goes where it would have gone from the start; any
    other stop is the same stop. -/
def StopRel (st₀ : Int) (c : Ctx) (out : Array UInt8) (F : Ctx → Step) : Step → Prop
  | .cont c' o' => F c = .cont c' o'
  | .fin st c1 o1 => (st = st₀ ∧ o1 = out ∧ Kept c c1 ∧ F c1 = F c) ∨ (st ≠ st₀ ∧ F c = .fin st c1 o1)

variable {e : Env} {b : Array UInt8} {c : Ctx} {out : Array UInt8}

theorem stop_same {st₀ : Int} {F : Ctx → Step} {S : Step} (hF : F c = S) (hS : S.stops (· ≠ st₀)) :
    StopRel st₀ c out F S := by
  cases S with
  | cont c' o' => exact hF
  | fin st c' o' => exact Or.inr ⟨hS st c' o' rfl, hF⟩

theorem StopRel.lift {st₀ : Int} {F F' : Ctx → Step} {S : Step} (hX : ∀ c0, Kept c c0 → F c0 = F' c0)
    (h : StopRel st₀ c out F' S) : StopRel st₀ c out F S := by
  cases S with
  | cont c' o' => exact (hX c (Kept.refl c)).trans h
  | fin st c1 o1 =>
    rcases h with ⟨h1, h2, h3, h4⟩ | ⟨h1, h2⟩
    · exact Or.inl ⟨h1, h2, h3, (hX c1 h3).trans (h4.trans (hX c (Kept.refl c)).symm)⟩
    · exact Or.inr ⟨h1, (hX c (Kept.refl c)).trans h2⟩

theorem StopRel.guard {st₀ : Int} {q : Ctx → Prop} [DecidablePred q] {A B : Ctx → Step} {SA SB : Step}
    (hq : ∀ c1, Kept c c1 → (q c1 ↔ q c)) (hA : q c → StopRel st₀ c out A SA) (hB : ¬ q c → StopRel st₀ c out B SB) :
    StopRel st₀ c out (fun c0 => if q c0 then A c0 else B c0) (if q c then SA else SB) := by
  by_cases h : q c
  · rw [if_pos h]; exact (hA h).lift fun c1 hk => if_pos ((hq c1 hk).mpr h)
  · rw [if_neg h]; exact (hB h).lift fun c1 hk => if_neg (mt (hq c1 hk).mp h)

theorem split_readBits (hle : c.inPos ≤ e.inp.size) (amount : Ctx → Nat) (k : Ctx → Nat → Step)
    (ha : ∀ c0, Kept c c0 → amount c0 = amount c) (hk : ∀ c1 v, (k c1 v).stops (· ≠ e.eoi)) :
    StopRel e.eoi c out
      (fun c0 => match readBits (e.inp ++ b) (amount c0) c0 with
        | (c1, none) => .fin e.eoi c1 out
        | (c1, some v) => k c1 v)
      (match readBits e.inp (amount c) c with
        | (c1, none) => .fin e.eoi c1 out
        | (c1, some v) => k c1 v) := by
  have hok := (readBits_spec e.inp (amount c) c hle).1
  have hnone := (readBits_spec e.inp (amount c) c hle).2.1
  cases h : readBits e.inp (amount c) c with
  | mk c1 o =>
    rw [h] at hok hnone
    cases o with
    | none =>
      have hK : Kept c c1 := ⟨hok.regs, Nat.le.intro (hnone rfl).2.2.symm⟩
      exact Or.inl ⟨rfl, rfl, hK, by dsimp only; rw [ha c1 hK, readBits_starve h]⟩
    | some v => exact stop_same (by dsimp only; rw [readBits_mono (b := b) h]) (hk c1 v)

theorem split_decodeHuff (hle : c.inPos ≤ e.inp.size) (code : Ctx → Code) (k : Ctx → Nat → Step)
    (ha : ∀ c0, Kept c c0 → code c0 = code c) (hk : ∀ c1 v, (k c1 v).stops (· ≠ e.eoi)) :
    StopRel e.eoi c out
      (fun c0 => match decodeHuff (e.inp ++ b) (code c0) c0 with
        | (c1, none) => .fin e.eoi c1 out
        | (c1, some v) => k c1 v)
      (match decodeHuff e.inp (code c) c with
        | (c1, none) => .fin e.eoi c1 out
        | (c1, some v) => k c1 v) := by
  have hok := (decodeHuff_spec e.inp (code c) c hle).1
  have hnone := (decodeHuff_spec e.inp (code c) c hle).2.1
  cases h : decodeHuff e.inp (code c) c with
  | mk c1 o =>
    rw [h] at hok hnone
    cases o with
    | none =>
      have hK : Kept c c1 := ⟨hok.regs, Nat.le.intro (hnone rfl).2.symm⟩
      exact Or.inl ⟨rfl, rfl, hK, by dsimp only; rw [ha c1 hK, decodeHuff_starve h]⟩
    | some v => exact stop_same (by dsimp only; rw [decodeHuff_mono (b := b) h]) (hk c1 v)

/-- States that read one whole byte directly: they starve without having moved, so the other call's
    transition `F` only matters at `c` itself. -/
theorem split_readByte (k : UInt8 → Step) (F : Ctx → Step) (hk : ∀ x, (k x).stops (· ≠ e.eoi))
    (hF : F c = (match (e.inp ++ b)[c.inPos]? with
      | none => .fin e.eoi c out
      | some x => k x)) :
    StopRel e.eoi c out F (match e.inp[c.inPos]? with
      | none => .fin e.eoi c out
      | some x => k x) := by
  cases h : e.inp[c.inPos]? with
  | none => exact Or.inl ⟨rfl, rfl, Kept.refl c, rfl⟩
  | some x => exact stop_same (by rw [hF, getElem?_append_of_some (b := b) h]) (hk x)

theorem ne_eoi {st : Int} (e : Env) (h : st ≠ stNeedsMoreInput ∧ st ≠ stFailedCannotMakeProgress := by decide) :
    st ≠ e.eoi :=
  fun hh => (eoi_cases e).elim (fun h1 => h.1 (hh.trans h1)) fun h2 => h.2 (hh.trans h2)

theorem hmo_ne_eoi (e : Env) : stHasMoreOutput ≠ e.eoi := ne_eoi e
theorem bb_ne_eoi (e : Env) : stBlockBoundary ≠ e.eoi := ne_eoi e
theorem done_ne_eoi (e : Env) : stDone ≠ e.eoi := ne_eoi e
theorem failed_ne_eoi (e : Env) : stFailed ≠ e.eoi := ne_eoi e
theorem eoi_ne_modelError (e : Env) : e.eoi ≠ stModelError := (ne_eoi e).symm

theorem ReadOK.fields {inp : Array UInt8} {c c0 : Ctx} (h : ReadOK inp c c0) :
    c0.r.state = c.r.state ∧ c0.r.counter = c.r.counter ∧ c0.r.dist = c.r.dist ∧ c0.r.numExtra = c.r.numExtra ∧
    c0.r.tableSizes = c.r.tableSizes ∧ c0.r.clenCode = c.r.clenCode ∧ c0.r.litCode = c.r.litCode ∧
    c0.r.distCode = c.r.distCode ∧ c0.outPos = c.outPos := by
  have := h.regs
  exact ⟨by rw [this], by rw [this], by rw [this], by rw [this], by rw [this], by rw [this], by rw [this],
    by rw [this], h.outPos⟩

theorem readBits_enough (inp : Array UInt8) {amount : Nat} {c : Ctx} (h : amount ≤ c.r.numBits) :
    readBits inp amount c =
      ({ c with r := { c.r with bitBuf := c.r.bitBuf >>> amount, numBits := c.r.numBits - amount } },
        some (c.r.bitBuf % 2 ^ amount)) := by
  unfold readBits readBitsAux
  rw [if_neg (Nat.not_lt.mpr h)]

/-- padding to a byte boundary takes buffered bits only -/
theorem split_BlockTypeNoCompression :
    StopRel e.eoi c out (fun c0 => stBlockTypeNoCompression (e.ext b) c0 out) (stBlockTypeNoCompression e c out) := by
  unfold stBlockTypeNoCompression
  rw [readBits_enough e.inp (Nat.mod_le _ _)]
  exact stop_same (by dsimp only; rw [readBits_enough _ (Nat.mod_le _ _)]) stops_cont

theorem split_RawHeader (hle : c.inPos ≤ e.inp.size) :
    StopRel e.eoi c out (fun c0 => stRawHeader (e.ext b) c0 out) (stRawHeader e c out) := by
  unfold stRawHeader
  refine StopRel.guard (fun c1 hk => by rw [hk.regs]) (fun _ => ?_) fun _ =>
    stop_same rfl (stops_ite stops_cont (stops_ite stops_cont (stops_ite stops_cont stops_cont)))
  by_cases hnb : c.r.numBits ≠ 0
  · rw [if_pos hnb]
    exact (split_readBits hle (fun _ => 8) _ (fun _ _ => rfl) fun _ _ => stops_cont).lift fun c0 hk =>
      if_pos (Nat.ne_of_gt (Nat.lt_of_lt_of_le (Nat.pos_of_ne_zero hnb) hk.bits))
  · rw [if_neg hnb]
    exact split_readByte _ _ (fun _ => stops_cont) (if_neg hnb)

theorem split_ReadAdler32 (hle : c.inPos ≤ e.inp.size) :
    StopRel e.eoi c out (fun c0 => stReadAdler32 (e.ext b) c0 out) (stReadAdler32 e c out) := by
  unfold stReadAdler32
  refine StopRel.guard (fun c1 hk => by rw [hk.regs]) (fun _ => ?_) fun _ => stop_same rfl stops_cont
  by_cases hnb : c.r.numBits ≠ 0
  · rw [if_pos hnb]
    exact (split_readBits hle (fun _ => 8) _ (fun _ _ => rfl) fun _ _ => stops_cont).lift fun c0 hk =>
      if_pos (Nat.ne_of_gt (Nat.lt_of_lt_of_le (Nat.pos_of_ne_zero hnb) hk.bits))
  · rw [if_neg hnb]
    exact split_readByte _ _ (fun _ => stops_cont) (if_neg hnb)

theorem copyIn_prefix (a b : Array UInt8) (n : Nat) : ∀ (out : Array UInt8) (p q : Nat), q + n ≤ a.size →
    copyIn (a ++ b) out p q n = copyIn a out p q n := by
  induction n with
  | zero => intro out p q _; rfl
  | succ n ih =>
    intro out p q h
    unfold copyIn
    have : (a ++ b).getD q 0 = a.getD q 0 := by
      simp only [Array.getD_eq_getD_getElem?]
      rw [Array.getElem?_append_left (by omega)]
    rw [this]
    exact ih _ _ _ (by omega)

theorem copyIn_add (inp : Array UInt8) (n m : Nat) : ∀ (out : Array UInt8) (p q : Nat),
    copyIn inp out p q (n + m) = copyIn inp (copyIn inp out p q n) (p + n) (q + n) m := by
  induction n with
  | zero => intro out p q; rw [Nat.zero_add]; rfl
  | succ n ih =>
    intro out p q
    rw [Nat.add_right_comm n 1 m, copyIn, copyIn, ih, Nat.add_right_comm p 1 n, Nat.add_right_comm q 1 n]
    rfl

def memcpyNext (c : Ctx) (n : Nat) : Ctx :=
  setState { c with r := { c.r with counter := c.r.counter - n }, inPos := c.inPos + n, outPos := c.outPos + n } sRawMemcpy1

theorem stRawMemcpy2_eq (e : Env) (c : Ctx) (out : Array UInt8) :
    stRawMemcpy2 e c out =
      if c.inPos < e.inp.size then
        .cont (memcpyNext c (min (min (e.outEnd - c.outPos) (e.inp.size - c.inPos)) c.r.counter))
          (copyIn e.inp out c.outPos c.inPos (min (min (e.outEnd - c.outPos) (e.inp.size - c.inPos)) c.r.counter))
      else .fin e.eoi c out := rfl

theorem min3_split {a b k n : Nat} (ha : n ≤ a) (hb : n ≤ b) (hk : n ≤ k) :
    min (min a b) k = n + min (min (a - n) (b - n)) (k - n) := by
  rw [← Nat.add_min_add_left, ← Nat.add_min_add_left, Nat.add_sub_cancel' ha, Nat.add_sub_cancel' hb,
    Nat.add_sub_cancel' hk]

/-- One of three bounds on the length of a copy is relaxed from `X` to `X'`: the length is the same,
    or `X` was the strict minimum. -/
theorem min_room_cases {X X' P Q : Nat} (h : X ≤ X') :
    min X' (min P Q) = min X (min P Q) ∨ (min X (min P Q) = X ∧ X < P ∧ X < Q ∧ X < X') := by
  by_cases h1 : min P Q ≤ X
  · exact .inl (by rw [Nat.min_eq_right h1, Nat.min_eq_right (Nat.le_trans h1 h)])
  · by_cases h2 : X' ≤ X
    · exact .inl (by rw [Nat.le_antisymm h2 h])
    · have hlt := Nat.lt_of_not_le h1
      exact .inr ⟨Nat.min_eq_left (Nat.le_of_lt hlt), Nat.lt_of_lt_of_le hlt (Nat.min_le_left ..),
        Nat.lt_of_lt_of_le hlt (Nat.min_le_right ..), Nat.lt_of_not_le h2⟩

/-- A stored copy may be done in two pieces: after any first part of `n` bytes that leaves input,
    `RawMemcpy2` lands where it lands from the start. -/
theorem memcpy2_resume (e : Env) (c : Ctx) (out : Array UInt8) (n : Nat)
    (ho : n ≤ e.outEnd - c.outPos) (hk : n ≤ c.r.counter) (hin : c.inPos + n < e.inp.size) :
    stRawMemcpy2 e (setState (memcpyNext c n) sRawMemcpy2) (copyIn e.inp out c.outPos c.inPos n) =
      stRawMemcpy2 e c out := by
  rw [stRawMemcpy2_eq, stRawMemcpy2_eq, if_pos (show c.inPos < e.inp.size by omega)]
  show (if c.inPos + n < e.inp.size then
      Step.cont (memcpyNext (setState (memcpyNext c n) sRawMemcpy2)
          (min (min (e.outEnd - (c.outPos + n)) (e.inp.size - (c.inPos + n))) (c.r.counter - n)))
        (copyIn e.inp (copyIn e.inp out c.outPos c.inPos n) (c.outPos + n) (c.inPos + n)
          (min (min (e.outEnd - (c.outPos + n)) (e.inp.size - (c.inPos + n))) (c.r.counter - n)))
      else _) = _
  rw [if_pos hin, min3_split ho (show n ≤ e.inp.size - c.inPos by omega) hk, copyIn_add,
    Nat.sub_add_eq, Nat.sub_add_eq]
  congr 1
  unfold memcpyNext
  simp only [setState, Nat.sub_sub, Nat.add_assoc]

/-- Every state except `RawMemcpy2`. A state that reads is one of the three reading shapes; any other
    state does not look at the input and cannot stop starved. -/
theorem step_split (g : Geo e c out) (hne : c.r.state ≠ sRawMemcpy2) :
    StopRel e.eoi c out (fun c0 => step (e.ext b) c0 out) (step e c out) := by
  have hle := g.inLe
  refine StopRel.lift (F' := fun c0 => stepAt c.r.state (e.ext b) c0 out)
    (fun c0 h0 => by unfold step; rw [h0.regs]) ?_
  exact stepAt_cases (s := c.r.state)
    (P := fun s f => (f e c out).stops (· = stopOf e s) → s ≠ sRawMemcpy2 →
      StopRel e.eoi c out (fun c0 => f (e.ext b) c0 out) (f e c out))
    (hStart := fun _ _ => stop_same rfl stops_cont)
    (hZlibCmf := fun _ _ => split_readByte _ _ (fun _ => stops_cont) rfl)
    (hZlibFlg := fun _ _ => split_readByte _ _ (fun _ => stops_cont) rfl)
    (hBlockHeader := fun _ _ => split_readBits hle (fun _ => 3) _ (fun _ _ => rfl) fun _ _ =>
      stops_ite stops_cont (stops_ite stops_cont (stops_ite stops_cont stops_cont)))
    (hNoCompression := fun _ _ => split_BlockTypeNoCompression)
    (hRawHeader := fun _ _ => split_RawHeader hle)
    (hRawReadFirstByte := fun _ _ => split_readBits hle (fun _ => 8) _ (fun _ _ => rfl) fun _ _ => stops_cont)
    (hRawStoreFirstByte := fun hs _ => stop_same rfl (hs.mono fun _ h => h ▸ hmo_ne_eoi e))
    (hRawMemcpy1 := fun hs _ => stop_same rfl (hs.mono fun _ h => h ▸ hmo_ne_eoi e))
    (hRawMemcpy2 := fun _ h => absurd rfl h)
    (hTableSizes := fun _ _ => StopRel.guard (fun c1 hk => by rw [hk.regs])
      (fun _ => split_readBits hle (fun c0 => [5, 5, 4].getD c0.r.counter 0) _ (fun _ hk => by rw [hk.regs])
        fun _ _ => stops_cont)
      fun _ => stop_same rfl (stops_ite stops_cont stops_cont))
    (hHufflen := fun _ _ => StopRel.guard (fun c1 hk => by rw [hk.regs])
      (fun _ => split_readBits hle (fun _ => 3) _ (fun _ _ => rfl) fun _ _ => stops_cont)
      fun _ => stop_same rfl stops_cont)
    (hLitlenDist := fun _ _ => StopRel.guard (fun c1 hk => by rw [hk.regs])
      (fun _ => split_decodeHuff hle (·.r.clenCode) _ (fun _ hk => by rw [hk.regs])
        fun _ _ => stops_ite stops_cont (stops_ite stops_cont stops_cont))
      fun _ => stop_same rfl (stops_ite stops_cont stops_cont))
    (hExtraCodeSize := fun _ _ => split_readBits hle (·.r.numExtra) _ (fun _ hk => by rw [hk.regs]) fun _ _ => stops_cont)
    (hDecodeLitlen := fun _ _ => split_decodeHuff hle (·.r.litCode) _ (fun _ hk => by rw [hk.regs]) fun _ _ => stops_cont)
    (hWriteSymbol := fun hs _ => stop_same rfl (hs.mono fun _ h => h ▸ hmo_ne_eoi e))
    (hOuterLoop1 := fun _ _ => stop_same rfl (stops_ite stops_cont (stops_ite stops_cont stops_cont)))
    (hExtraLitlen := fun _ _ => split_readBits hle (·.r.numExtra) _ (fun _ hk => by rw [hk.regs]) fun _ _ => stops_cont)
    (hDecodeDistance := fun _ _ => split_decodeHuff hle (·.r.distCode) _ (fun _ hk => by rw [hk.regs])
      fun _ _ => stops_ite stops_cont stops_cont)
    (hExtraDistance := fun _ _ => split_readBits hle (·.r.numExtra) _ (fun _ hk => by rw [hk.regs]) fun _ _ => stops_cont)
    (hOuterLoop2 := fun hs _ => stop_same rfl (hs.mono fun _ h => h ▸ hmo_ne_eoi e))
    (hWriteLenBytes := fun hs _ => stop_same rfl (hs.mono fun _ h => h ▸ hmo_ne_eoi e))
    (hBlockDone := fun hs _ => stop_same rfl (hs.mono fun _ h => h ▸ bb_ne_eoi e))
    (hAdler32 := fun _ _ => split_ReadAdler32 hle)
    (hDone := fun _ _ => stop_same rfl (stops_fin (done_ne_eoi e)))
    (hFailed := fun _ _ _ _ => stop_same rfl (stops_fin (failed_ne_eoi e)))
    (stepAt_stop _ e c out) hne

/-- The run from `(c, out)` ends with result `R` (a real status, not fuel exhaustion). -/
def Final (e : Env) (c : Ctx) (out : Array UInt8) (R : Int × Ctx × Array UInt8) : Prop :=
  ∃ f, run e f c out = R ∧ R.1 ≠ stModelError

theorem Final.of_cont {e : Env} {c c' : Ctx} {o o' : Array UInt8} {R : Int × Ctx × Array UInt8}
    (h : step e c o = .cont c' o') (hf : Final e c' o' R) : Final e c o R := by
  obtain ⟨f, hf, hne⟩ := hf
  refine ⟨f + 1, ?_, hne⟩
  rw [run, h]; exact hf

theorem Final.of_step_eq {e : Env} {c c1 : Ctx} {o o1 : Array UInt8} {R : Int × Ctx × Array UInt8}
    (h : step e c o = step e c1 o1) (hf : Final e c1 o1 R) : Final e c o R := by
  obtain ⟨f, hf, hne⟩ := hf
  cases f with
  | zero => rw [run] at hf; rw [← hf] at hne; exact absurd rfl hne
  | succ f =>
    refine ⟨f + 1, ?_, hne⟩
    rw [run] at hf ⊢
    rw [h]; exact hf

theorem Final.unique {e : Env} {c : Ctx} {o : Array UInt8} {R R' : Int × Ctx × Array UInt8}
    (h : Final e c o R) (h' : Final e c o R') : R = R' := by
  obtain ⟨f, hf, hne⟩ := h
  obtain ⟨f', hf', hne'⟩ := h'
  have a := run_fuel_mono e f c o (by rw [hf]; exact hne) (max f f') (Nat.le_max_left _ _)
  have b := run_fuel_mono e f' c o (by rw [hf']; exact hne') (max f f') (Nat.le_max_right _ _)
  rw [← hf, ← hf', ← a, ← b]

theorem Geo.ext {e : Env} {b : Array UInt8} {c : Ctx} {out : Array UInt8} (g : Geo e c out) : Geo (e.ext b) c out :=
  ⟨by have := g.inLe; show c.inPos ≤ (e.inp ++ b).size; simp; omega, g.outLe, g.endLe⟩

theorem Final.of_fin {e : Env} {c c' : Ctx} {o o' : Array UInt8} {st : Int} (h : step e c o = .fin st c' o')
    (hne : st ≠ stModelError) : Final e c o (st, c', o') :=
  ⟨1, by rw [run, h], hne⟩

/-- One transition `S` of a call `e` at `(c, out)` against the call `e'` that differs from it in what
    makes `e` suspend with status `st₀` (less input, a smaller window): a continuing transition is
    the same transition of `e'`, or every run of `e` from its target suspends where `e'` goes on as
    from `(c, out)`; a stop with `st₀` leaves `e'` going on as from `(c, out)`; any other stop is the
    same stop of `e'`. -/
def Link (e e' : Env) (st₀ : Int) (c : Ctx) (out : Array UInt8) : Step → Prop
  | .cont c' o' => step e' c out = .cont c' o' ∨
      ∀ R1, Final e c' o' R1 → R1.1 = st₀ ∧ ∀ R, Final e' R1.2.1 R1.2.2 R → Final e' c out R
  | .fin st c1 o1 => (st = st₀ ∧ ∀ R, Final e' c1 o1 R → Final e' c out R) ∨
      (st ≠ st₀ ∧ step e' c out = .fin st c1 o1)

theorem run_link {e e' : Env} {st₀ : Int} (hl : ∀ c out, Geo e c out → Link e e' st₀ c out (step e c out)) :
    ∀ (f : Nat) (c : Ctx) (out : Array UInt8) (R1 : Int × Ctx × Array UInt8), Geo e c out →
    run e f c out = R1 → R1.1 ≠ stModelError →
    (R1.1 = st₀ → ∀ R, Final e' R1.2.1 R1.2.2 R → Final e' c out R) ∧ (R1.1 ≠ st₀ → Final e' c out R1) := by
  intro f
  induction f with
  | zero => intro c out R1 _ h hne; rw [run] at h; exact absurd (h ▸ rfl) hne
  | succ f ih =>
    intro c out R1 g h hne
    have hok := step_ok g
    have hl := hl c out g
    rw [run] at h
    cases hst : step e c out with
    | cont c' o' =>
      rw [hst] at h hl hok
      rcases hl with hsame | hsusp
      · obtain ⟨h1, h2⟩ := ih c' o' R1 hok.geo h hne
        exact ⟨fun h0 R hR => Final.of_cont hsame (h1 h0 R hR), fun h0 => Final.of_cont hsame (h2 h0)⟩
      · obtain ⟨h1, h2⟩ := hsusp R1 ⟨f, h, hne⟩
        exact ⟨fun _ => h2, fun h0 => absurd h1 h0⟩
    | fin st c1 o1 =>
      rw [hst] at h hl
      subst h
      rcases hl with ⟨h1, h2⟩ | ⟨h1, h2⟩
      · exact ⟨fun _ => h2, fun h0 => absurd h1 h0⟩
      · exact ⟨fun h0 => absurd h0 h1, fun _ => Final.of_fin h2 hne⟩

theorem StopRel.link {e e' : Env} {st₀ : Int} {c : Ctx} {out : Array UInt8} {S : Step}
    (h : StopRel st₀ c out (fun c0 => step e' c0 out) S) : Link e e' st₀ c out S := by
  cases S with
  | cont c' o' => exact .inl h
  | fin st c1 o1 =>
    rcases h with ⟨h1, h2, _, h4⟩ | h
    · exact .inl ⟨h1, fun R hR => Final.of_step_eq h4.symm (h2 ▸ hR)⟩
    · exact .inr h

/-- `RawMemcpy2` under a prefix of the input: either the same transition as with the whole input,
    or the chunk ran out in the middle of the stored data — then the prefix run starves two
    transitions later in a context from which the whole-input transition lands where the
    whole-input transition from the start lands. -/
theorem split_RawMemcpy2 (hs : c.r.state = sRawMemcpy2) :
    Link e (e.ext b) e.eoi c out (stRawMemcpy2 e c out) := by
  have hsz : e.inp.size ≤ (e.ext b).inp.size := Array.size_append ▸ Nat.le_add_right ..
  rw [stRawMemcpy2_eq e c out]
  by_cases hin : c.inPos < e.inp.size
  · rw [if_pos hin]
    have hI : e.inp.size - c.inPos ≤ (e.ext b).inp.size - c.inPos := Nat.sub_le_sub_right hsz _
    have hbig : step (e.ext b) c out = _ :=
      (step_RawMemcpy2 hs).trans ((stRawMemcpy2_eq (e.ext b) c out).trans (if_pos (Nat.lt_of_lt_of_le hin hsz)))
    rw [Nat.min_comm (e.outEnd - c.outPos), Nat.min_assoc]
    rcases min_room_cases (P := e.outEnd - c.outPos) (Q := c.r.counter) hI with hsame | ⟨hn, hA, hK, hlt⟩
    · left
      rw [hbig, Env.ext_outEnd, Nat.min_comm (e.outEnd - c.outPos), Nat.min_assoc, hsame, Env.ext_inp,
        copyIn_prefix _ _ _ _ _ _ ((Nat.le_sub_iff_add_le' (Nat.le_of_lt hin)).mp (Nat.min_le_left ..))]
    · -- the chunk is the limiting factor: the chunk run starves two transitions later
      rw [hn]
      refine .inr fun R1 hR1 => ?_
      have h1 := (step_RawMemcpy1 (e := e) (c := memcpyNext c (e.inp.size - c.inPos))
        (o := copyIn e.inp out c.outPos c.inPos (e.inp.size - c.inPos)) rfl).trans
        ((if_neg (Nat.sub_ne_zero_of_lt hK)).trans
          (if_neg (show ¬ e.outEnd - (c.outPos + (e.inp.size - c.inPos)) = 0 from
            Nat.sub_add_eq .. ▸ Nat.sub_ne_zero_of_lt hA)))
      have h2 := (step_RawMemcpy2 (e := e) (c := setState (memcpyNext c (e.inp.size - c.inPos)) sRawMemcpy2)
        (o := copyIn e.inp out c.outPos c.inPos (e.inp.size - c.inPos)) rfl).trans
        ((stRawMemcpy2_eq ..).trans
          (if_neg (Nat.not_lt.mpr (Nat.le_of_eq (Nat.add_sub_cancel' (Nat.le_of_lt hin)).symm))))
      rw [Final.unique hR1 (Final.of_cont h1 (Final.of_fin h2 (eoi_ne_modelError e)))]
      refine ⟨rfl, fun R hR => Final.of_step_eq ?_ hR⟩
      rw [step_RawMemcpy2 hs, step_RawMemcpy2 (c := setState _ sRawMemcpy2) rfl,
        ← copyIn_prefix e.inp b _ out c.outPos c.inPos (Nat.le_of_eq (Nat.add_sub_cancel' (Nat.le_of_lt hin)))]
      exact (memcpy2_resume (e.ext b) c out _ (Nat.le_of_lt hA) (Nat.le_of_lt hK) (Nat.add_lt_of_lt_sub' hlt)).symm
  · rw [if_neg hin]
    exact .inl ⟨rfl, fun R hR => hR⟩

theorem split_link (e : Env) (b : Array UInt8) (c : Ctx) (out : Array UInt8) (g : Geo e c out) :
    Link e (e.ext b) e.eoi c out (step e c out) := by
  by_cases hm : c.r.state = sRawMemcpy2
  · rw [step_RawMemcpy2 hm]; exact split_RawMemcpy2 hm
  · exact (step_split g hm).link

theorem run_split (e : Env) (b : Array UInt8) : ∀ (f : Nat) (c : Ctx) (out : Array UInt8) (c1 : Ctx) (out1 : Array UInt8),
    Geo e c out → run e f c out = (e.eoi, c1, out1) →
    ∀ R, Final (e.ext b) c1 out1 R → Final (e.ext b) c out R :=
  fun f c out _ _ g h => (run_link (split_link e b) f c out _ g h (eoi_ne_modelError e)).1 rfl

end Model.Core
