/-
What follows a finished stream in the input does not matter: a call that reports `Done` (or any
status other than the starved ones) on a chunk reports the same result, field by field, on that chunk
followed by any further bytes. For Props/C06.
-/
import MinizProof.Lemmas.CoreSound
namespace Model.Core
open Spec

theorem decompress_ext_same (r : Regs) (a b out : Array UInt8) (outPos budget flags : Nat)
    (hne : (callRun r a out outPos budget flags).1 ≠ endOfInput flags) :
    decompress r (a ++ b) out outPos budget flags = decompress r a out outPos budget flags := by
  cases hg : badGeometry flags out.size outPos with
  | true => rw [decompress_bad _ _ _ _ _ _ hg, decompress_bad _ _ _ _ _ _ hg]
  | false =>
    rw [decompress_eq _ _ _ _ _ _ hg, decompress_eq _ _ _ _ _ _ hg]
    have hF := callFinal r a out outPos budget flags hg
    have hF2 : Final ((callEnv a out outPos budget flags).ext b) _ _ _ :=
      callFinal r (a ++ b) out outPos budget flags hg
    -- name the result of the run over `a` before using it: unfolding `callRun` would unfold `run`
    generalize callRun r a out outPos budget flags = R at hF hne ⊢
    obtain ⟨st, c1, o1⟩ := R
    obtain ⟨f, hf, hnm⟩ := hF
    rw [Final.unique hF2 (run_ext_same _ b f _ out st c1 o1 (callGeo hg) hf hne hnm)]

theorem done_ext_same (r : Regs) (a b out : Array UInt8) (outPos budget flags : Nat)
    (hdone : (decompress r a out outPos budget flags).status = stDone) :
    decompress r (a ++ b) out outPos budget flags = decompress r a out outPos budget flags := by
  cases hg : badGeometry flags out.size outPos with
  | true =>
    rw [decompress_bad _ _ _ _ _ _ hg] at hdone
    exact absurd (show stBadParam = stDone from hdone) (by decide)
  | false =>
    apply decompress_ext_same
    rw [decompress_eq _ _ _ _ _ _ hg] at hdone
    rw [epilogue_done hdone]
    exact fun h => done_ne_eoi (callEnv a out outPos budget flags) h

end Model.Core
