/-
An ENCODER SPECIFICATION for the Huffman-coded part of a DEFLATE block, at the level of bits, and
the proof that the reference decoder inverts it: fields (LSB first), canonical codes (MSB first),
tokens given as symbols + extra-bit values, token sequences with end-of-block. "The stream holds
these bits from position `pos`" is the predicate `HasBits`; no byte packing is involved. Helper lemmas for Props/C10.
-/
import MinizProof.Lemmas.HuffCanon
namespace Model.Core
open Spec

def HasBits (data : Array UInt8) (pos : Nat) (bs : List Nat) : Prop :=
  ∀ i, i < bs.length → bitAt data (pos + i) = some (bs.getD i 0)

theorem HasBits.append {data : Array UInt8} {pos : Nat} {a b : List Nat} (h : HasBits data pos (a ++ b)) :
    HasBits data pos a ∧ HasBits data (pos + a.length) b := by
  constructor
  · intro i hi
    have := h i (by rw [List.length_append]; omega)
    rw [this]
    simp [List.getD_eq_getElem?_getD, List.getElem?_append_left hi]
  · intro i hi
    have := h (a.length + i) (by rw [List.length_append]; omega)
    rw [Nat.add_assoc, this]
    simp only [List.getD_eq_getElem?_getD]
    rw [List.getElem?_append_right (by omega)]
    simp

/-- `n`-bit field, least significant bit first -/
def bitsLE (v : Nat) : Nat → List Nat
  | 0 => []
  | n + 1 => (v % 2) :: bitsLE (v / 2) n

theorem bitsLE_length (v n : Nat) : (bitsLE v n).length = n := by
  induction n generalizing v with
  | zero => rfl
  | succ n ih => simp [bitsLE, ih]

theorem bitsAt_of_hasBits (data : Array UInt8) : ∀ (n pos v : Nat), v < 2 ^ n → HasBits data pos (bitsLE v n) →
    bitsAt data pos n = some v := by
  intro n
  induction n with
  | zero => intro pos v hv _; simp at hv; subst hv; rfl
  | succ n ih =>
    intro pos v hv h
    unfold bitsAt
    have h0 := h 0 (by simp [bitsLE])
    simp only [Nat.add_zero, bitsLE, List.getD_cons_zero] at h0
    have hrest : HasBits data (pos + 1) (bitsLE (v / 2) n) := by
      intro i hi
      have := h (i + 1) (by simp [bitsLE]; rw [bitsLE_length] at hi; rw [bitsLE_length]; omega)
      rw [show pos + (i + 1) = pos + 1 + i by omega] at this
      rw [this]
      simp [bitsLE]
    rw [h0, ih (pos + 1) (v / 2) (by rw [Nat.pow_succ] at hv; omega) hrest]
    simp only [Option.some.injEq]
    omega

/-- the bits of the canonical code of `s`, in transmission order -/
def codeBits (lens : Array Nat) (s : Nat) : List Nat :=
  (List.range (lens.getD s 0)).map (codeBit (canonCode lens s) (lens.getD s 0))

theorem codeBits_length (lens : Array Nat) (s : Nat) : (codeBits lens s).length = lens.getD s 0 := by
  simp [codeBits]

/-- the code bits of `s` from its length, the first code of that length, and one pass over the list of lengths for its rank -/
theorem codeBits_eq (lens : Array Nat) {s L f : Nat} (hs : s ≤ lens.size) (hL : lens.getD s 0 = L) (hf : firstAt lens L = f) :
    codeBits lens s = (List.range L).map (codeBit (f + (lens.toList.take s).countP (· = L)) L) := by
  subst hL hf
  rw [codeBits, canonCode, symRank_toList lens hs]

/-- a usable code: every length at most 15 and the set not over-subscribed (as `Spec.codeValid` demands) -/
structure CodeOk (lens : Array Nat) : Prop where
  le15  : ∀ s, lens.getD s 0 ≤ 15
  kraft : ∃ r, kraftLeft (countLens lens) = some r

theorem decodeSym_of_hasBits (lens : Array Nat) (hok : CodeOk lens) (data : Array UInt8) (pos s : Nat) (hs : s < lens.size)
    (h1 : 1 ≤ lens.getD s 0) (h : HasBits data pos (codeBits lens s)) :
    decodeSym (mkCode lens) data pos = .sym s (pos + lens.getD s 0) := by
  obtain ⟨r, hr⟩ := hok.kraft
  refine (canonical_code_is_decoded lens data pos s r hs hr h1 (hok.le15 s) ?_).1
  intro i hi
  have := h i (by rw [codeBits_length]; exact hi)
  rw [this]
  have hi' : i < (List.range (lens.getD s 0)).length := by rw [List.length_range]; exact hi
  simp only [codeBits, List.getD_eq_getElem?_getD, List.getElem?_map]
  rw [List.getElem?_eq_getElem hi']
  simp

/-- A token as the encoder writes it: a literal byte, or a match given by its length symbol with
    the value of its extra bits and its distance symbol with the value of its extra bits. -/
inductive SymTok
  | lit (b : Nat)
  | copy (ls lx ds dx : Nat)

def SymTok.len : SymTok → Nat
  | .lit _ => 1
  | .copy ls lx _ _ => (lengthBaseExtra ls).1 + lx

def SymTok.dist : SymTok → Nat
  | .lit _ => 0
  | .copy _ _ ds dx => (distBaseExtra ds).1 + dx

def SymTok.token : SymTok → Token
  | .lit b => .lit b.toUInt8
  | t@(.copy _ _ _ _) => .copy t.len t.dist

/-- the token is expressible with the two codes -/
def SymTok.Ok (litLens distLens : Array Nat) : SymTok → Prop
  | .lit b => b < 256 ∧ b < litLens.size ∧ 1 ≤ litLens.getD b 0
  | .copy ls lx ds dx => 257 ≤ ls ∧ ls ≤ 285 ∧ ls < litLens.size ∧ 1 ≤ litLens.getD ls 0 ∧ lx < 2 ^ (lengthBaseExtra ls).2 ∧
      ds ≤ 29 ∧ ds < distLens.size ∧ 1 ≤ distLens.getD ds 0 ∧ dx < 2 ^ (distBaseExtra ds).2

def encTok (litLens distLens : Array Nat) : SymTok → List Nat
  | .lit b => codeBits litLens b
  | .copy ls lx ds dx => codeBits litLens ls ++ (bitsLE lx (lengthBaseExtra ls).2 ++
      (codeBits distLens ds ++ bitsLE dx (distBaseExtra ds).2))

theorem decodeToken_enc (litLens distLens : Array Nat) (hl : CodeOk litLens) (hd : CodeOk distLens)
    (maxDist : Nat) (data : Array UInt8) (pos avail : Nat) (t : SymTok) (ht : t.Ok litLens distLens)
    (h : HasBits data pos (encTok litLens distLens t)) :
    decodeToken maxDist (mkCode litLens) (mkCode distLens) data pos avail =
      match t with
      | .lit b => .lit b.toUInt8 (pos + (encTok litLens distLens t).length)
      | .copy _ _ _ _ =>
        if t.dist > avail || t.dist > maxDist then .reject .distTooFar
        else .copy t.len t.dist (pos + (encTok litLens distLens t).length) := by
  cases t with
  | lit b =>
    obtain ⟨hb, hsz, h1⟩ := ht
    unfold decodeToken
    rw [decodeSym_of_hasBits litLens hl data pos b hsz h1 h]
    simp only [encTok, codeBits_length]
    rw [if_pos hb]
  | copy ls lx ds dx =>
    obtain ⟨h257, h285, hsz, h1, hlx, h29, hdsz, hd1, hdx⟩ := ht
    unfold encTok at h
    obtain ⟨ha, h2⟩ := h.append
    obtain ⟨hb, h3⟩ := h2.append
    obtain ⟨hc, hdd⟩ := h3.append
    simp only [codeBits_length, bitsLE_length] at hb hc hdd
    unfold decodeToken
    rw [decodeSym_of_hasBits litLens hl data pos ls hsz h1 ha]
    dsimp only
    rw [if_neg (by omega), if_neg (by omega), if_neg (by omega)]
    rw [bitsAt_of_hasBits data _ _ lx hlx hb]
    dsimp only
    rw [decodeSym_of_hasBits distLens hd data _ ds hdsz hd1 hc]
    dsimp only
    rw [if_neg (by omega)]
    rw [bitsAt_of_hasBits data _ _ dx hdx hdd]
    dsimp only
    simp only [SymTok.dist, SymTok.len, encTok, List.length_append, codeBits_length, bitsLE_length]
    have e : pos + litLens.getD ls 0 + (lengthBaseExtra ls).2 + distLens.getD ds 0 + (distBaseExtra ds).2 =
        pos + (litLens.getD ls 0 + ((lengthBaseExtra ls).2 + (distLens.getD ds 0 + (distBaseExtra ds).2))) := by omega
    rw [e]
    rfl

/-- LZ77 expansion of a token sequence appended to `out` -/
def expandToks (pre : Array UInt8) : Array UInt8 → List SymTok → Array UInt8
  | out, [] => out
  | out, .lit b :: ts => expandToks pre (out.push b.toUInt8) ts
  | out, (t@(.copy _ _ _ _)) :: ts => expandToks pre (copyMatch pre out t.dist t.len) ts

/-- every token is expressible and every match reaches back over bytes that exist -/
def ToksOk (litLens distLens : Array Nat) (pre : Array UInt8) (maxDist : Nat) : Array UInt8 → List SymTok → Prop
  | _, [] => True
  | out, .lit b :: ts => (SymTok.lit b).Ok litLens distLens ∧ ToksOk litLens distLens pre maxDist (out.push b.toUInt8) ts
  | out, (t@(.copy _ _ _ _)) :: ts => t.Ok litLens distLens ∧ t.dist ≤ pre.size + out.size ∧ t.dist ≤ maxDist ∧
      ToksOk litLens distLens pre maxDist (copyMatch pre out t.dist t.len) ts

def encToks (litLens distLens : Array Nat) : List SymTok → List Nat
  | [] => codeBits litLens 256
  | t :: ts => encTok litLens distLens t ++ encToks litLens distLens ts

/-- A TOKEN SEQUENCE WITH ITS END-OF-BLOCK CODE: the reference decoder produces the expansion, the
    same tokens, and stops right after the end-of-block code. -/
theorem decodeTokens_enc (litLens distLens : Array Nat) (hl : CodeOk litLens) (hd : CodeOk distLens)
    (h256 : 256 < litLens.size ∧ 1 ≤ litLens.getD 256 0)
    (pre : Array UInt8) (maxDist : Nat) (data : Array UInt8) :
    ∀ (ts : List SymTok) (fuel pos : Nat) (out : Array UInt8) (acc : Array Token), ts.length < fuel →
    ToksOk litLens distLens pre maxDist out ts → HasBits data pos (encToks litLens distLens ts) →
    decodeTokens pre maxDist (mkCode litLens) (mkCode distLens) data fuel pos out acc =
      .accept (pos + (encToks litLens distLens ts).length, expandToks pre out ts, acc ++ (ts.map SymTok.token).toArray) := by
  intro ts
  induction ts with
  | nil =>
    intro fuel pos out acc hf _ h
    obtain ⟨f, rfl⟩ : ∃ f, fuel = f + 1 := ⟨fuel - 1, by simp at hf; omega⟩
    unfold decodeTokens decodeToken
    rw [decodeSym_of_hasBits litLens hl data pos 256 h256.1 h256.2 h]
    simp [encToks, codeBits_length, expandToks]
  | cons t ts ih =>
    intro fuel pos out acc hf hok h
    obtain ⟨f, rfl⟩ : ∃ f, fuel = f + 1 := ⟨fuel - 1, by simp at hf; omega⟩
    obtain ⟨ht, hrest⟩ := HasBits.append (a := encTok litLens distLens t) (b := encToks litLens distLens ts) h
    unfold decodeTokens
    cases t with
    | lit b =>
      obtain ⟨hto, hok'⟩ := hok
      rw [decodeToken_enc litLens distLens hl hd maxDist data pos _ (.lit b) hto ht]
      dsimp only
      rw [ih f _ _ _ (by simp at hf; omega) hok' hrest]
      simp [encToks, expandToks, SymTok.token, Nat.add_assoc]
    | copy ls lx ds dx =>
      obtain ⟨hto, hav, hmd, hok'⟩ := hok
      rw [decodeToken_enc litLens distLens hl hd maxDist data pos _ (.copy ls lx ds dx) hto ht]
      dsimp only
      rw [if_neg (by simp; omega)]
      dsimp only
      rw [ih f _ _ _ (by simp at hf; omega) hok' hrest]
      simp [encToks, expandToks, SymTok.token, Nat.add_assoc]

end Model.Core
