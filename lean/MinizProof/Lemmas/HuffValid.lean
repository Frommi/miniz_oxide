/-
FROM THE LIMITED HISTOGRAM TO THE DECODER'S VALIDITY RULE: a set of code lengths whose histogram is a
complete prefix-code histogram within 15 bits (what `enforce_max_code_size` leaves behind,
`Lemmas/HuffLimit`) passes `Spec.codeValid` — the Kraft bookkeeping of RFC 1951 / `inftrees.c` that the
reference decoder applies to every transmitted code — as a COMPLETE code.
-/
import MinizProof.Lemmas.SpecHuffman
import MinizProof.Lemmas.HuffLimit

namespace Model.HuffLimit
open Spec

theorem kraft_cons (a : Int) (r : List Int) : kraft (a :: r) = a * 2 ^ r.length + kraft r := by
  unfold kraft
  rw [List.reverse_cons, W_append, List.length_reverse]
  simp only [W]
  grind

theorem kraft_nonneg (l : List Int) (h : Nonneg l) : 0 ≤ kraft l :=
  W_nonneg _ (fun x hx => h x (List.mem_reverse.mp hx))

/-- the decoder's Kraft bookkeeping over the lengths `len, len+1, …` whose counts are the list `l`:
    with enough left it never reports over-subscription and ends with exactly what is left -/
theorem kraftLeftAux_spec (count : Array Nat) : ∀ (l : List Int) (len left : Nat), Nonneg l →
    (∀ i, i < l.length → count.getD (len + i) 0 = (l.getD i 0).toNat) →
    kraft l ≤ (left : Int) * 2 ^ l.length →
    kraftLeftAux count l.length len left = some ((left : Int) * 2 ^ l.length - kraft l).toNat := by
  intro l
  induction l with
  | nil => intro len left _ _ _; simp [kraftLeftAux, kraft, W]
  | cons a r ih =>
    intro len left hnn hc hk
    have ha := hnn a (by simp)
    have hnr : Nonneg r := fun x hx => hnn x (by simp [hx])
    have hkr := kraft_nonneg r hnr
    have hp : (0 : Int) < 2 ^ r.length := Int.pow_pos (by decide)
    rw [kraft_cons] at hk ⊢
    simp only [List.length_cons, Int.pow_succ] at hk ⊢
    rw [show (left : Int) * (2 ^ r.length * 2) = (2 * (left : Int)) * 2 ^ r.length by grind] at hk ⊢
    have hale : a ≤ 2 * (left : Int) := Int.le_of_mul_le_mul_right (by omega) hp
    -- what is left for the longer lengths
    have e1 : ((2 * left - a.toNat : Nat) : Int) * 2 ^ r.length = (2 * (left : Int)) * 2 ^ r.length - a * 2 ^ r.length := by
      rw [← Int.sub_mul]; congr 1; omega
    have hc0 : count.getD len 0 = a.toNat := by simpa using hc 0 (by simp)
    rw [kraftLeftAux_succ, hc0, if_neg (by omega), ih (len + 1) (2 * left - a.toNat) hnr
      (fun i hi => by simpa [Nat.add_assoc, Nat.add_comm 1 i] using hc (i + 1) (by simp; omega)) (by omega), e1]
    congr 2
    omega

/-- A COMPLETE HISTOGRAM WITHIN 15 BITS IS A VALID (COMPLETE) CODE FOR THE DECODER: if the lengths
    `lens` (all ≤ 15) have `lv[i]` symbols of length `i + 1` and `lv` is a complete prefix-code
    histogram, the reference decoder's validity rule accepts them, for every alphabet. -/
theorem complete_histogram_is_valid (k : CodeKind) (lens : Array Nat) (lv : List Int) (h15 : lens.all (· ≤ 15) = true)
    (hlen : lv.length = 15) (hnn : Nonneg lv)
    (hc : ∀ i, i < 15 → (countLens lens).getD (1 + i) 0 = (lv.getD i 0).toNat)
    (hk : kraft lv = 2 ^ 15) : codeValid k lens = true := by
  have h := kraftLeftAux_spec (countLens lens) lv 1 1 hnn (by rw [hlen]; exact hc) (by rw [hlen, hk]; decide)
  rw [hlen, hk] at h
  unfold codeValid kraftLeft
  rw [h15, h]
  rfl

theorem kraft_append (x y : List Int) : kraft (x ++ y) = kraft y + 2 ^ y.length * kraft x := by
  unfold kraft
  rw [List.reverse_append, W_append, List.length_reverse]

theorem kraft_zeros (k : Nat) : kraft (List.replicate k (0 : Int)) = 0 := by
  unfold kraft
  rw [List.reverse_replicate]
  exact (W_zero_tail _ (fun x hx => (List.mem_replicate.mp hx).2)).1

/-- `complete_histogram_is_valid` for a histogram over the lengths `1..max` with `max ≤ 15` (the code-length alphabet is
    limited to 7 bits): no symbol has a longer code, and the histogram is complete. -/
theorem complete_histogram_is_valid_upto (k : CodeKind) (lens : Array Nat) (lv : List Int) (max : Nat) (hmax : max ≤ 15)
    (h15 : lens.all (· ≤ 15) = true) (hlen : lv.length = max) (hnn : Nonneg lv)
    (hc : ∀ i, i < 15 → (countLens lens).getD (1 + i) 0 = (lv.getD i 0).toNat)
    (hk : kraft lv = 2 ^ max) : codeValid k lens = true := by
  apply complete_histogram_is_valid k lens (lv ++ List.replicate (15 - max) 0) h15
  · rw [List.length_append, List.length_replicate, hlen]; omega
  · intro x hx
    rcases List.mem_append.mp hx with h | h
    · exact hnn x h
    · rw [(List.mem_replicate.mp h).2]; exact Int.le_refl _
  · intro i hi
    rw [hc i hi]
    congr 1
    by_cases hlt : i < lv.length
    · simp [List.getD_eq_getElem?_getD, List.getElem?_append_left hlt]
    · have hge : lv.length ≤ i := Nat.le_of_not_lt hlt
      simp only [List.getD_eq_getElem?_getD]
      rw [List.getElem?_append_right hge, List.getElem?_eq_none hge]
      cases hr : (List.replicate (15 - max) (0 : Int))[i - lv.length]? with
      | none => rfl
      | some v =>
        have := List.mem_of_getElem? hr
        rw [(List.mem_replicate.mp this).2]; rfl
  · rw [kraft_append, kraft_zeros, hk, List.length_replicate, Int.zero_add, ← Int.pow_add]
    congr 1; omega

end Model.HuffLimit
