/-
FROM ONE FLAT CALL ON A WHOLE VALID STREAM TO THE RING DRIVER ON ANY PART OF IT, for any stream format.
`FlatTheory fl V P L`: for every stream `z` with `V z` ("valid, plaintext `P`"), one flat call on `z`
from a fresh decoder reports `Done` with `P` written when `P` fits the window, "has more output"
when it does not (raw: C03 + C08 `Lemmas/CoreRefine, CoreFull`; zlib: `Lemmas/CoreZlib, CoreFull`).
From that alone, with the format-independent call theorems (input extension C06, call composition
C07, ring = flat C07): the flat mirror of the ring driver never fails, so the ring driver agrees with
it call by call for every chunking, and its last call has the status of ONE flat call on everything
supplied. `rawFlatTheoryOf` is the raw instance (Props/C07); the zlib one is in `Lemmas/CoreRingTheory`.
-/
import MinizProof.Lemmas.CoreRingRun
import MinizProof.Lemmas.CoreFull
import MinizProof.Lemmas.CoreExt
namespace Model.Core
open Spec

/-- If the call on `a ++ b` ends with `Done` or wants more room, the call on `a` alone is `Done`,
    wants more room, or is starved — never a failure: either it starves, or it does not look
    beyond `a` and is the call on `a ++ b`. -/
theorem status_of_part (r : Regs) (a b out : Array UInt8) (outPos budget flags : Nat)
    (hg : badGeometry flags out.size outPos = false)
    (h : (decompress r (a ++ b) out outPos budget flags).status = stDone ∨
      (decompress r (a ++ b) out outPos budget flags).status = stHasMoreOutput) :
    (decompress r a out outPos budget flags).status = stDone ∨
    (decompress r a out outPos budget flags).status = stHasMoreOutput ∨
    (decompress r a out outPos budget flags).status = stNeedsMoreInput ∨
    (decompress r a out outPos budget flags).status = stFailedCannotMakeProgress := by
  by_cases he : isEoi (callRun r a out outPos budget flags).1 = true
  · rw [decompress_eq _ _ _ _ _ _ hg]
    rcases (epilogue_eoi flags outPos (min (outPos + budget) out.size) _ (callRun r a out outPos budget flags).2.1
      (callRun r a out outPos budget flags).2.2 he).1 with h | h | h
    · exact .inr (.inr (.inl h))
    · exact .inr (.inl h)
    · exact .inr (.inr (.inr h))
  · have hne : (callRun r a out outPos budget flags).1 ≠ endOfInput flags := by
      intro h; rw [h, eoi_isEoi] at he; exact he rfl
    rw [← decompress_ext_same r a b out outPos budget flags hne]
    exact h.elim .inl (.inr ∘ .inl)

theorem prefix_never_fails (r : Regs) (a b out : Array UInt8) (outPos budget flags maxDist : Nat)
    (res : Inflated)
    (hstart : r.state = sStart) (hshape : r.rawHeader.size = 4 ∧ r.tableSizes.size = 3 ∧ r.lenCodes.size = 512)
    (hflat : hasFlag flags fNonWrapping = true) (hz : hasFlag flags fParseZlib = false)
    (hstop : hasFlag flags fStopOnBlockBoundary = false) (hpos : outPos ≤ out.size)
    (hspec : inflateSpec (out.extract 0 outPos) maxDist (a ++ b) 0 = .accept res) :
    (decompress r a out outPos budget flags).status = stDone ∨
    (decompress r a out outPos budget flags).status = stHasMoreOutput ∨
    (decompress r a out outPos budget flags).status = stNeedsMoreInput ∨
    (decompress r a out outPos budget flags).status = stFailedCannotMakeProgress := by
  refine status_of_part r a b out outPos budget flags (badGeometry_flat hflat hpos) ?_
  by_cases hfit : outPos + res.out.size ≤ min (outPos + budget) out.size
  · exact .inl (refine_raw_flat r (a ++ b) out outPos budget flags maxDist res hstart hshape hflat hz hstop hpos hspec hfit).1
  · exact .inr (full_raw_flat r (a ++ b) out outPos budget flags maxDist res hstart hshape hflat hz hstop hpos hspec (by omega))

/-- What a suspended call has written is what the single call on more input with more room writes
    there, and that call writes at least as much: it is the suspended call followed by a second one (`decompress_resume`), and the
    second one does not touch what the first wrote. -/
theorem decompress_resume_frame (r : Regs) (a b out : Array UInt8) (pos budget1 budget2 flags : Nat)
    (hb : Bnd r) (hg : badGeometry flags out.size pos = false)
    (hs : suspended (decompress r a out pos budget1 flags))
    (hbud : budget1 ≤ (decompress r a out pos budget1 flags).written + budget2) :
    (decompress r a out pos budget1 flags).written ≤
      (decompress r (a ++ b) out pos ((decompress r a out pos budget1 flags).written + budget2) flags).written ∧
    ∀ i, i < pos + (decompress r a out pos budget1 flags).written →
      (decompress r (a ++ b) out pos ((decompress r a out pos budget1 flags).written + budget2) flags).out[i]? =
        (decompress r a out pos budget1 flags).out[i]? := by
  have hcomp := decompress_resume r a b out pos budget1 budget2 flags hb hg hs hbud
  dsimp only at hcomp
  rw [hcomp.2.1, hcomp.2.2.1]
  exact ⟨Nat.le_add_right _ _, fun i hi => (decompress_facts _ _ _ _ _ _).frame i (.inl hi)⟩

structure FlatTheory (fl : Nat) (V : Array UInt8 → Prop) (P : Array UInt8) (L : Nat) : Prop where
  flat : hasFlag fl fNonWrapping = true
  fits : ∀ (z out : Array UInt8) (budget : Nat), V z → P.size ≤ min budget out.size →
    (decompress {} z out 0 budget fl).status = stDone ∧ (decompress {} z out 0 budget fl).written = P.size ∧
    (∀ i, i < P.size → (decompress {} z out 0 budget fl).out[i]? = P[i]?) ∧
    (decompress {} z out 0 budget fl).consumed = L
  full : ∀ (z out : Array UInt8) (budget : Nat), V z → min budget out.size < P.size →
    (decompress {} z out 0 budget fl).status = stHasMoreOutput

/-- the flat theory of RAW streams: `V z` = the reference decoder accepts `z` with result `res` -/
theorem rawFlatTheoryOf (fl : Nat) (hflat : hasFlag fl fNonWrapping = true) (hz : hasFlag fl fParseZlib = false)
    (hstop : hasFlag fl fStopOnBlockBoundary = false) (maxDist : Nat) (res : Inflated) :
    FlatTheory fl (fun z => inflateSpec #[] maxDist z 0 = .accept res) res.out ((res.bitsUsed + 7) / 8) where
  flat := hflat
  fits := by
    intro z out budget hv hfit
    have h := refine_raw_flat {} z out 0 budget fl maxDist res rfl fresh_shape hflat hz hstop (Nat.zero_le _)
      (by simpa using hv) (by simpa using hfit)
    exact ⟨h.1, h.2.1, fun i hi => by have := h.2.2.2 i hi; rwa [Nat.zero_add] at this, h.2.2.1⟩
  full := by
    intro z out budget hv hbig
    exact full_raw_flat {} z out 0 budget fl maxDist res rfl fresh_shape hflat hz hstop (Nat.zero_le _)
      (by simpa using hv) (by simpa using hbig)

theorem FlatTheory.never {fl : Nat} {V : Array UInt8 → Prop} {P : Array UInt8} {L : Nat} (T : FlatTheory fl V P L)
    (a b out : Array UInt8) (budget : Nat) (hv : V (a ++ b)) :
    (decompress {} a out 0 budget fl).status = stDone ∨ (decompress {} a out 0 budget fl).status = stHasMoreOutput ∨
    (decompress {} a out 0 budget fl).status = stNeedsMoreInput ∨
    (decompress {} a out 0 budget fl).status = stFailedCannotMakeProgress := by
  refine status_of_part {} a b out 0 budget fl (badGeometry_flat T.flat (Nat.zero_le _)) ?_
  by_cases hfit : P.size ≤ min budget out.size
  · exact .inl (T.fits _ out budget hv hfit).1
  · exact .inr (T.full _ out budget hv (by omega))

theorem FlatTheory.done {fl : Nat} {V : Array UInt8 → Prop} {P : Array UInt8} {L : Nat} (T : FlatTheory fl V P L)
    (a b out : Array UInt8) (budget : Nat) (hv : V (a ++ b))
    (hd : (decompress {} a out 0 budget fl).status = stDone) :
    (decompress {} a out 0 budget fl).written = P.size ∧
    (∀ i, i < P.size → (decompress {} a out 0 budget fl).out[i]? = P[i]?) ∧
    (decompress {} a out 0 budget fl).consumed = L := by
  have hext := done_ext_same {} a b out 0 budget fl hd
  rw [← hext] at hd ⊢
  by_cases hfit : P.size ≤ min budget out.size
  · exact (T.fits _ out budget hv hfit).2
  · have := T.full _ out budget hv (by omega)
    rw [this] at hd; exact absurd hd (by decide)

/-- the ring driver's state after a list of chunks: registers, ring, cursor, unconsumed input -/
def ringEnd (flags W : Nat) : Regs → Array UInt8 → Nat → Array UInt8 → List (Array UInt8) →
    Regs × Array UInt8 × Nat × Array UInt8
  | r, oR, p, carry, [] => (r, oR, p, carry)
  | r, oR, p, carry, chunk :: rest =>
    let res := decompress r (carry ++ chunk) oR p (W - p) flags
    ringEnd flags W res.r res.out (ringNext W (p + res.written))
      ((carry ++ chunk).extract res.consumed (carry ++ chunk).size) rest

theorem runRing_snoc_end (flags W : Nat) : ∀ (init : List (Array UInt8)) (x : Array UInt8) (r : Regs) (oR : Array UInt8)
    (p : Nat) (carry : Array UInt8),
    let e := ringEnd flags W r oR p carry init
    let res := decompress e.1 (e.2.2.2 ++ x) e.2.1 e.2.2.1 (W - e.2.2.1) flags
    runRing flags W r oR p carry (init ++ [x]) = runRing flags W r oR p carry init ++ [(res, e.2.2.1)] ∧
    ringEnd flags W r oR p carry (init ++ [x]) =
      (res.r, res.out, ringNext W (e.2.2.1 + res.written), (e.2.2.2 ++ x).extract res.consumed (e.2.2.2 ++ x).size) := by
  intro init
  induction init with
  | nil => intro x r oR p carry; exact ⟨rfl, rfl⟩
  | cons c cs ih =>
    intro x r oR p carry
    have := ih x (decompress r (carry ++ c) oR p (W - p) flags).r (decompress r (carry ++ c) oR p (W - p) flags).out
      (ringNext W (p + (decompress r (carry ++ c) oR p (W - p) flags).written))
      ((carry ++ c).extract (decompress r (carry ++ c) oR p (W - p) flags).consumed (carry ++ c).size)
    constructor
    · show (_ :: runRing flags W _ _ _ _ (cs ++ [x])) = (_ :: runRing flags W _ _ _ _ cs) ++ _
      rw [this.1]; rfl
    · show ringEnd flags W _ _ _ _ (cs ++ [x]) = _
      rw [this.2]; rfl

theorem ringGrants_snoc (flags W : Nat) : ∀ (init : List (Array UInt8)) (x : Array UInt8) (r : Regs) (oR : Array UInt8)
    (p base : Nat) (carry : Array UInt8),
    ∃ g, ringGrants flags W r oR p base carry (init ++ [x]) = ringGrants flags W r oR p base carry init ++ [(x, g)] := by
  intro init
  induction init with
  | nil => intro x r oR p base carry; exact ⟨_, rfl⟩
  | cons c cs ih =>
    intro x r oR p base carry
    rw [List.cons_append, ringGrants, ringGrants]
    generalize decompress r (carry ++ c) oR p (W - p) flags = res
    obtain ⟨g, hg⟩ := ih x res.r res.out (ringNext W (p + res.written)) (baseNext W base (p + res.written))
      ((carry ++ c).extract res.consumed (carry ++ c).size)
    exact ⟨g, by rw [hg]; rfl⟩

theorem runCalls_snoc (flags pos0 : Nat) : ∀ (init : List (Array UInt8 × Nat)) (x : Array UInt8 × Nat) (r : Regs)
    (out : Array UInt8) (pos : Nat) (carry : Array UInt8),
    ∃ f, runCalls flags pos0 r out pos carry (init ++ [x]) = runCalls flags pos0 r out pos carry init ++ [f] := by
  intro init
  induction init with
  | nil => intro x r out pos carry; obtain ⟨c, g⟩ := x; exact ⟨_, rfl⟩
  | cons c cs ih =>
    intro x r out pos carry
    obtain ⟨chunk, g⟩ := c
    rw [List.cons_append, runCalls, runCalls]
    generalize decompress r (carry ++ chunk) out pos (pos0 + g - pos) flags = res
    obtain ⟨f, hf⟩ := ih x res.r res.out (pos + res.written) ((carry ++ chunk).extract res.consumed (carry ++ chunk).size)
    exact ⟨f, by rw [hf]; rfl⟩

theorem catList_append : ∀ (l1 l2 : List (Array UInt8)), catList (l1 ++ l2) = catList l1 ++ catList l2 := by
  intro l1
  induction l1 with
  | nil => intro l2; simp [catList]
  | cons c cs ih => intro l2; show c ++ catList (cs ++ l2) = (c ++ catList cs) ++ catList l2; rw [ih, Array.append_assoc]

theorem suspended_ne_failed {f : Res} (h : suspended f) : f.status ≠ stFailed := by
  rcases h with h | h <;> rw [h] <;> decide

theorem RingRel.start {W : Nat} {oR oF : Array UInt8} (h : oR.size = W) : RingRel W 0 0 oR oF :=
  ⟨h, fun i hi => absurd hi (Nat.not_lt_zero _), fun i _ hiW hb => by omega⟩

/-- THE RING DRIVER AGREES WITH ITS FLAT MIRROR ON EVERY PART OF A VALID STREAM (any format with a
    flat theory): the mirror never fails. -/
theorem ring_agrees_of_flat {flagsR flagsF W : Nat} {V : Array UInt8 → Prop} {P : Array UInt8} {L : Nat} (T : FlatTheory flagsF V P L)
    (hfl : FlagsRF flagsR flagsF) (hbig : 32768 ≤ W)
    (oR oF : Array UInt8) (hW : oR.size = W) (hg : badGeometry flagsR W 0 = false)
    (z : Array UInt8) (hv : V z) :
    ∀ (n : Nat) (chunks : List (Array UInt8)) (b : Array UInt8), chunks.length = n → catList chunks ++ b = z →
    W * (chunks.length + 1) ≤ oF.size →
    (∀ x ∈ (runRing flagsR W {} oR 0 #[] chunks).dropLast, suspended x.1) →
    RunsAgree 0 (runRing flagsR W {} oR 0 #[] chunks)
      (runCalls flagsF 0 {} oF 0 #[] (ringGrants flagsR W {} oR 0 0 #[] chunks)) := by
  have hWpos : 0 < W := by omega
  intro n
  induction n with
  | zero =>
    intro chunks b hlen _ _ _
    have : chunks = [] := List.eq_nil_of_length_eq_zero hlen
    subst this; exact trivial
  | succ n ih =>
    intro chunks b hlen hcat hsz hsus
    rcases List.eq_nil_or_concat chunks with hnil | ⟨init, x, hcx⟩
    · subst hnil; simp at hlen
    rw [List.concat_eq_append] at hcx
    subst hcx
    have hlen' : init.length = n := by simp at hlen; omega
    have hy := (runRing_snoc_end flagsR W init x {} oR 0 #[]).1
    obtain ⟨g, hgr⟩ := ringGrants_snoc flagsR W init x {} oR 0 0 #[]
    obtain ⟨f, hf⟩ := runCalls_snoc flagsF 0 (ringGrants flagsR W {} oR 0 0 #[] init) (x, g) {} oF 0 #[]
    have hsusInit : ∀ v ∈ runRing flagsR W {} oR 0 #[] init, suspended v.1 := by
      intro v hv
      apply hsus v
      rw [hy, List.dropLast_concat]; exact hv
    have hszInit : W * (init.length + 1) ≤ oF.size := by
      simp only [List.length_append, List.length_singleton] at hsz
      exact Nat.le_trans (Nat.mul_le_mul_left W (Nat.le_succ _)) hsz
    have hcatInit : catList init ++ (x ++ b) = z := by
      rw [← hcat, catList_append]
      show catList init ++ (x ++ b) = catList init ++ (x ++ #[]) ++ b
      rw [Array.append_empty, Array.append_assoc]
    have hagI := ih init (x ++ b) hlen' hcatInit hszInit (fun v hv => hsusInit v (List.dropLast_subset _ hv))
    have hsusF := RunsAgree.all_suspended _ _ _ hagI hsusInit
    have hfne : f.status ≠ stFailed := by
      have hG : ringGrants flagsR W {} oR 0 0 #[] (init ++ [x]) ≠ [] := by rw [hgr]; simp
      obtain ⟨c0, g0, calls, hGe⟩ : ∃ c0 g0 calls, ringGrants flagsR W {} oR 0 0 #[] (init ++ [x]) = (c0, g0) :: calls := by
        cases hGd : ringGrants flagsR W {} oR 0 0 #[] (init ++ [x]) with
        | nil => exact absurd hGd hG
        | cons hd tl => exact ⟨hd.1, hd.2, tl, rfl⟩
      have hmono := grantsMono_ringGrants flagsR W (init ++ [x]) {} oR 0 0 #[]
      have hcatG := catChunks_ringGrants flagsR W (init ++ [x]) {} oR 0 0 #[]
      have hFall : runCalls flagsF 0 {} oF 0 #[] ((c0, g0) :: calls) =
          runCalls flagsF 0 {} oF 0 #[] (ringGrants flagsR W {} oR 0 0 #[] init) ++ [f] := by
        rw [← hGe, hgr]; exact hf
      rw [hGe] at hmono hcatG
      have hone := runCalls_last flagsF 0 calls {} oF 0 #[] c0 g0 Bnd_fresh (badGeometry_flat hfl.flat (Nat.zero_le _)) hmono
        (by rw [hFall, List.dropLast_concat]; exact hsusF) f (by rw [hFall, List.getLast?_concat])
      dsimp only at hone
      rw [hcatG] at hone
      have hnever := T.never (#[] ++ catList (init ++ [x])) b oF (0 + lastGrant ((c0, g0) :: calls) - 0)
        (by rw [Array.empty_append, hcat]; exact hv)
      rw [hone.1] at hnever
      rcases hnever with h | h | h | h <;> rw [h] <;> decide
    have hnf : ∀ r' ∈ runCalls flagsF 0 {} oF (0 + 0) #[] (ringGrants flagsR W {} oR 0 0 #[] (init ++ [x])), r'.status ≠ stFailed := by
      intro r' hr'
      rw [hgr] at hr'
      have : r' ∈ runCalls flagsF 0 {} oF 0 #[] (ringGrants flagsR W {} oR 0 0 #[] init) ++ [f] := by rw [← hf]; exact hr'
      rcases List.mem_append.mp this with h | h
      · exact suspended_ne_failed (hsusF r' h)
      · simp only [List.mem_singleton] at h; rw [h]; exact hfne
    exact runRing_agrees flagsR flagsF W hfl hbig (init ++ [x]) {} oR oF 0 0 #[] Bnd_fresh hW hg (Or.inl hWpos) (RingRel.start hW)
      (by simpa using hsz) hsus hnf

/-- The ring driver against ONE flat call: with the calls before the last suspended, the last ring
    call has the status of the single flat call on everything supplied, into any flat buffer `oF`
    that is large enough for all laps, with the driver's last grant as budget; what the ring driver
    delivered is what that call wrote, and the counts add up to its counts. -/
theorem ring_vs_flat_call_at {flagsR flagsF W : Nat} {V : Array UInt8 → Prop} {P : Array UInt8} {L : Nat} (T : FlatTheory flagsF V P L)
    (hfl : FlagsRF flagsR flagsF) (hbig : 32768 ≤ W)
    (oR : Array UInt8) (hW : oR.size = W) (hg : badGeometry flagsR W 0 = false)
    (c : Array UInt8) (cs : List (Array UInt8)) (b : Array UInt8) (hv : V (catList (c :: cs) ++ b))
    (hsus : ∀ x ∈ (runRing flagsR W {} oR 0 #[] (c :: cs)).dropLast, suspended x.1)
    (lastR : Res × Nat) (hlast : (runRing flagsR W {} oR 0 #[] (c :: cs)).getLast? = some lastR)
    (oF : Array UInt8) (hsz : W * ((c :: cs).length + 1) ≤ oF.size) (G : Nat)
    (hG : G = lastGrant (ringGrants flagsR W {} oR 0 0 #[] (c :: cs))) :
    (decompress {} (catList (c :: cs)) oF 0 G flagsF).status = lastR.1.status ∧
    deliveredRing (runRing flagsR W {} oR 0 #[] (c :: cs)) =
      (decompress {} (catList (c :: cs)) oF 0 G flagsF).out.extract 0 (decompress {} (catList (c :: cs)) oF 0 G flagsF).written ∧
    (decompress {} (catList (c :: cs)) oF 0 G flagsF).written = ((runRing flagsR W {} oR 0 #[] (c :: cs)).map (·.1.written)).sum ∧
    ((decompress {} (catList (c :: cs)) oF 0 G flagsF).status ≠ stFailed →
      (decompress {} (catList (c :: cs)) oF 0 G flagsF).consumed = ((runRing flagsR W {} oR 0 #[] (c :: cs)).map (·.1.consumed)).sum) := by
  have hA := ring_agrees_of_flat T hfl hbig oR oF hW hg _ hv (c :: cs).length (c :: cs) b rfl rfl hsz hsus
  have hmono := grantsMono_ringGrants flagsR W (c :: cs) {} oR 0 0 #[]
  have hcat := catChunks_ringGrants flagsR W (c :: cs) {} oR 0 0 #[]
  obtain ⟨calls, hgr⟩ : ∃ calls, ringGrants flagsR W {} oR 0 0 #[] (c :: cs) = (c, 0 + W) :: calls :=
    ⟨_, by rw [ringGrants]⟩
  rw [hgr] at hA hmono hcat hG
  obtain ⟨lastF, hlastF⟩ : ∃ lf, (runCalls flagsF 0 {} oF 0 #[] ((c, 0 + W) :: calls)).getLast? = some lf := by
    rw [runCalls]; exact ⟨_, List.getLast?_cons⟩
  obtain ⟨hl1, _⟩ := RunsAgree.last _ _ _ hA lastR lastF hlast hlastF
  obtain ⟨o1, o2, o3, o4, _⟩ := runCalls_last flagsF 0 calls {} oF 0 #[] c (0 + W) Bnd_fresh
    (badGeometry_flat hfl.flat (Nat.zero_le _)) hmono (RunsAgree.suspended _ _ _ hA hsus) lastF hlastF
  rw [hcat, Array.empty_append, Nat.zero_add, Nat.sub_zero, ← hG] at o1 o2 o3 o4
  obtain ⟨s1, s2⟩ := RunsAgree.sums _ _ _ hA
  refine ⟨by rw [o1, hl1], ?_, by rw [o3, s1], fun hnf => by rw [o4 hnf, s2]⟩
  rw [RunsAgree.deliver _ _ _ hA, runCalls_delivered flagsF 0 _ {} oF 0 #[] lastF hlastF, Nat.zero_add, ← o3, ← o2]

/-- `ring_vs_flat_call_at` with a flat buffer chosen for the purpose (`extra` bytes larger than the laps need). -/
theorem ring_vs_one_flat_call {flagsR flagsF W : Nat} {V : Array UInt8 → Prop} {P : Array UInt8} {L : Nat} (T : FlatTheory flagsF V P L)
    (hfl : FlagsRF flagsR flagsF) (hbig : 32768 ≤ W)
    (oR : Array UInt8) (hW : oR.size = W) (hg : badGeometry flagsR W 0 = false)
    (c : Array UInt8) (cs : List (Array UInt8)) (b : Array UInt8) (hv : V (catList (c :: cs) ++ b))
    (hsus : ∀ x ∈ (runRing flagsR W {} oR 0 #[] (c :: cs)).dropLast, suspended x.1)
    (lastR : Res × Nat) (hlast : (runRing flagsR W {} oR 0 #[] (c :: cs)).getLast? = some lastR) (extra : Nat) :
    ∃ (oF : Array UInt8) (G : Nat), G + extra ≤ oF.size ∧
      (decompress {} (catList (c :: cs)) oF 0 G flagsF).status = lastR.1.status ∧
      deliveredRing (runRing flagsR W {} oR 0 #[] (c :: cs)) =
        (decompress {} (catList (c :: cs)) oF 0 G flagsF).out.extract 0 (decompress {} (catList (c :: cs)) oF 0 G flagsF).written ∧
      ((decompress {} (catList (c :: cs)) oF 0 G flagsF).status ≠ stFailed →
        (decompress {} (catList (c :: cs)) oF 0 G flagsF).consumed = ((runRing flagsR W {} oR 0 #[] (c :: cs)).map (·.1.consumed)).sum) := by
  have hroomG := lastGrant_ringGrants_le flagsR W (c :: cs) {} oR 0 0 #[] (List.cons_ne_nil _ _)
  have hsz : (Array.replicate (W * ((c :: cs).length + 1) + extra) (0 : UInt8)).size = W * ((c :: cs).length + 1) + extra :=
    Array.size_replicate
  have hfit : lastGrant (ringGrants flagsR W {} oR 0 0 #[] (c :: cs)) + extra ≤
      (Array.replicate (W * ((c :: cs).length + 1) + extra) (0 : UInt8)).size := by
    rw [hsz, Nat.mul_succ]; omega
  obtain ⟨h1, h2, _, h4⟩ := ring_vs_flat_call_at T hfl hbig oR hW hg c cs b hv hsus lastR hlast
    (Array.replicate (W * ((c :: cs).length + 1) + extra) 0) (by rw [hsz]; exact Nat.le_add_right _ _) _ rfl
  exact ⟨_, _, hfit, h1, h2, h4⟩

/-- On any part of a valid stream, the status of the ring driver's last call (the earlier ones being
    suspended) is one of four: `Done`, more room, more input, cannot make progress. -/
theorem ring_status_of_flat {flagsR flagsF W : Nat} {V : Array UInt8 → Prop} {P : Array UInt8} {L : Nat} (T : FlatTheory flagsF V P L)
    (hfl : FlagsRF flagsR flagsF) (hbig : 32768 ≤ W)
    (oR : Array UInt8) (hW : oR.size = W) (hg : badGeometry flagsR W 0 = false)
    (c : Array UInt8) (cs : List (Array UInt8)) (b : Array UInt8) (hv : V (catList (c :: cs) ++ b))
    (hsus : ∀ x ∈ (runRing flagsR W {} oR 0 #[] (c :: cs)).dropLast, suspended x.1)
    (lastR : Res × Nat) (hlast : (runRing flagsR W {} oR 0 #[] (c :: cs)).getLast? = some lastR) :
    lastR.1.status = stDone ∨ lastR.1.status = stHasMoreOutput ∨ lastR.1.status = stNeedsMoreInput ∨
    lastR.1.status = stFailedCannotMakeProgress := by
  obtain ⟨oF, G, _, hst, _, _⟩ := ring_vs_one_flat_call T hfl hbig oR hW hg c cs b hv hsus lastR hlast 0
  rw [← hst]
  exact T.never _ b oF G hv

theorem extract_prefix_eq (x y : Array UInt8) (n : Nat) (hx : n ≤ x.size) (hy : n ≤ y.size)
    (h : ∀ i, i < n → x[i]? = y[i]?) : x.extract 0 n = y.extract 0 n := by
  apply Array.ext_getElem?
  intro i
  simp only [Array.getElem?_extract, Nat.sub_zero, Nat.zero_add]
  have e1 : min n x.size = n := Nat.min_eq_left hx
  have e2 : min n y.size = n := Nat.min_eq_left hy
  rw [e1, e2]
  by_cases hi : i < n
  · rw [if_pos hi, if_pos hi]; exact h i hi
  · rw [if_neg hi, if_neg hi]

theorem extract_eq_of_getElem? (x P : Array UInt8) (hx : P.size ≤ x.size) (h : ∀ i, i < P.size → x[i]? = P[i]?) :
    x.extract 0 P.size = P := by
  rw [extract_prefix_eq x P P.size hx (Nat.le_refl _) h, Array.extract_size]

/-- When the ring driver's last call on part of a valid stream reports `Done`, the driver has
    delivered the plaintext, and the counts add up to its length and to the stream's length. -/
theorem ring_done_of_flat {flagsR flagsF W : Nat} {V : Array UInt8 → Prop} {P : Array UInt8} {L : Nat} (T : FlatTheory flagsF V P L)
    (hfl : FlagsRF flagsR flagsF) (hbig : 32768 ≤ W)
    (oR : Array UInt8) (hW : oR.size = W) (hg : badGeometry flagsR W 0 = false)
    (c : Array UInt8) (cs : List (Array UInt8)) (b : Array UInt8) (hv : V (catList (c :: cs) ++ b))
    (hsus : ∀ x ∈ (runRing flagsR W {} oR 0 #[] (c :: cs)).dropLast, suspended x.1)
    (lastR : Res × Nat) (hlast : (runRing flagsR W {} oR 0 #[] (c :: cs)).getLast? = some lastR)
    (hd : lastR.1.status = stDone) :
    deliveredRing (runRing flagsR W {} oR 0 #[] (c :: cs)) = P ∧
    ((runRing flagsR W {} oR 0 #[] (c :: cs)).map (·.1.written)).sum = P.size ∧
    ((runRing flagsR W {} oR 0 #[] (c :: cs)).map (·.1.consumed)).sum = L := by
  obtain ⟨hst, hdel, hwr, hcons⟩ := ring_vs_flat_call_at T hfl hbig oR hW hg c cs b hv hsus lastR hlast
    (Array.replicate (W * ((c :: cs).length + 1)) 0) (Nat.le_of_eq Array.size_replicate.symm) _ rfl
  obtain ⟨hw, hb, hL⟩ := T.done _ b _ _ hv (hst.trans hd)
  refine ⟨?_, by rw [← hwr]; exact hw, by rw [← hcons (by rw [hst, hd]; decide)]; exact hL⟩
  have hf := decompress_facts {} (catList (c :: cs)) (Array.replicate (W * ((c :: cs).length + 1)) 0) 0
    (lastGrant (ringGrants flagsR W {} oR 0 0 #[] (c :: cs))) flagsF
  rw [hdel, hw]
  exact extract_eq_of_getElem? _ P (by rw [← hw, hf.size]; exact Nat.le_trans hf.room (Nat.sub_le _ _)) hb

end Model.Core
