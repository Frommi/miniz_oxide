/-
Frame and status invariants of the decoder model, state by state (for Props/C08, C05):
every transition keeps the cursors inside the offered input and the granted output window, writes
only between the old and the new output position, and a final status is truthful about why the
automaton stopped.
-/
import MinizProof.Lemmas.CoreBasic
namespace Model.Core
open Spec

-- sealed while shape lemmas are matched against state functions (see `Lemmas/CoreBasic`)
attribute [local irreducible] readBits decodeHuff Array.instGetElem?NatLtSize

structure Geo (e : Env) (c : Ctx) (out : Array UInt8) : Prop where
  inLe  : c.inPos ≤ e.inp.size
  outLe : c.outPos ≤ e.outEnd
  endLe : e.outEnd ≤ out.size

structure Adv (e : Env) (c : Ctx) (out : Array UInt8) (c' : Ctx) (out' : Array UInt8) : Prop where
  geo   : Geo e c' out'
  mono  : c.outPos ≤ c'.outPos
  frame : SameOutside out' out c.outPos c'.outPos

def FinOK (e : Env) (st : Int) (c' : Ctx) : Prop :=
  (st = stHasMoreOutput ∧ c'.outPos = e.outEnd) ∨
  (st = e.eoi ∧ c'.inPos = e.inp.size) ∨
  (st = stDone ∧ c'.r.state = sDoneForever) ∨
  (st = stFailed ∧ sDoneForever < c'.r.state) ∨
  (st = stBlockBoundary ∧ hasFlag e.flags fStopOnBlockBoundary = true)

theorem eoi_cases (e : Env) : e.eoi = stNeedsMoreInput ∨ e.eoi = stFailedCannotMakeProgress := by
  unfold Env.eoi endOfInput; split <;> simp

/-- The final statuses are pairwise different, so each tells its reason. -/
theorem FinOK.out_full {e : Env} {st : Int} {c : Ctx} (h : FinOK e st c) (hs : st = stHasMoreOutput) :
    c.outPos = e.outEnd := by
  subst hs
  rcases h with h | h | h | h | h
  · exact h.2
  · rcases eoi_cases e with he | he <;> exact absurd (h.1.trans he) (by decide)
  all_goals exact absurd h.1 (by decide)

theorem FinOK.in_used {e : Env} {st : Int} {c : Ctx} (h : FinOK e st c)
    (hs : st = stNeedsMoreInput ∨ st = stFailedCannotMakeProgress) : c.inPos = e.inp.size := by
  rcases h with h | h | h | h | h
  · exact absurd (h.1 ▸ hs) (by decide)
  · exact h.2
  all_goals exact absurd (h.1 ▸ hs) (by decide)

theorem FinOK.done {e : Env} {c : Ctx} (h : FinOK e stDone c) : c.r.state = sDoneForever := by
  rcases h with h | h | h | h | h
  · exact absurd h.1 (by decide)
  · rcases eoi_cases e with he | he <;> exact absurd (h.1.trans he) (by decide)
  · exact h.2
  all_goals exact absurd h.1 (by decide)

theorem finOK_ne_modelError {e : Env} {st : Int} {c : Ctx} (h : FinOK e st c) : st ≠ stModelError := by
  intro hm
  subst hm
  rcases h with h | h | h | h | h
  · exact absurd h.1 (by decide)
  · rcases eoi_cases e with he | he <;> exact absurd (h.1.trans he) (by decide)
  all_goals exact absurd h.1 (by decide)

def StepOK (e : Env) (c : Ctx) (out : Array UInt8) : Step → Prop
  | .cont c' out' => Adv e c out c' out'
  | .fin st c' out' => Adv e c out c' out' ∧ FinOK e st c'

theorem Adv.of_pos {e : Env} {c c' : Ctx} {out : Array UInt8} (g : Geo e c out)
    (hi : c'.inPos ≤ e.inp.size) (ho : c'.outPos = c.outPos) : Adv e c out c' out :=
  ⟨⟨hi, by rw [ho]; exact g.outLe, g.endLe⟩, by rw [ho]; exact Nat.le_refl _, SameOutside.refl _ _ _⟩

theorem Adv.of_read {e : Env} {c c1 c' : Ctx} {out : Array UInt8} (g : Geo e c out)
    (h : ReadOK e.inp c c1) (hi : c'.inPos = c1.inPos) (ho : c'.outPos = c1.outPos) : Adv e c out c' out :=
  Adv.of_pos g (by rw [hi]; exact h.inHi) (by rw [ho]; exact h.outPos)

theorem Adv.of_write {e : Env} {c c' : Ctx} {out out' : Array UInt8} (n : Nat) (g : Geo e c out)
    (hi : c'.inPos ≤ e.inp.size) (ho : c'.outPos = c.outPos + n) (hn : c.outPos + n ≤ e.outEnd)
    (hf : SameOutside out' out c.outPos (c.outPos + n)) : Adv e c out c' out' :=
  ⟨⟨hi, by rw [ho]; exact hn, by rw [hf.1]; exact g.endLe⟩, by rw [ho]; omega, by rw [ho]; exact hf⟩

@[simp] theorem setState_inPos (c : Ctx) (s : Nat) : (setState c s).inPos = c.inPos := rfl
@[simp] theorem setState_outPos (c : Ctx) (s : Nat) : (setState c s).outPos = c.outPos := rfl
@[simp] theorem setState_state (c : Ctx) (s : Nat) : (setState c s).r.state = s := rfl

theorem initTree_frame (c : Ctx) (a b : Array Nat) : (initTree c a b).inPos = c.inPos ∧
    (initTree c a b).outPos = c.outPos ∧ (initTree c a b).r.numBits = c.r.numBits := by
  let P (x : Ctx) := x.inPos = c.inPos ∧ x.outPos = c.outPos ∧ x.r.numBits = c.r.numBits
  exact iteInduction (motive := P) (fun _ => iteInduction (motive := P) (fun _ => ⟨rfl, rfl, rfl⟩) fun _ => ⟨rfl, rfl, rfl⟩)
    fun _ => iteInduction (motive := P) (fun _ => ⟨rfl, rfl, rfl⟩) fun _ =>
      iteInduction (motive := P) (fun _ => ⟨rfl, rfl, rfl⟩) fun _ => ⟨rfl, rfl, rfl⟩
@[simp] theorem initTree_inPos (c : Ctx) (a b : Array Nat) : (initTree c a b).inPos = c.inPos :=
  (initTree_frame c a b).1
@[simp] theorem initTree_outPos (c : Ctx) (a b : Array Nat) : (initTree c a b).outPos = c.outPos :=
  (initTree_frame c a b).2.1
theorem initTree_numBits (c : Ctx) (a b : Array Nat) : (initTree c a b).r.numBits = c.r.numBits :=
  (initTree_frame c a b).2.2

theorem eoi_ok {e : Env} {c' : Ctx} (h : c'.inPos = e.inp.size) : FinOK e e.eoi c' := Or.inr (Or.inl ⟨rfl, h⟩)

variable {e : Env} {c : Ctx} {out : Array UInt8}

theorem Adv.refl (g : Geo e c out) : Adv e c out c out := Adv.of_pos g g.inLe rfl

theorem hmo_ok {c' : Ctx} (h : c'.outPos = e.outEnd) : FinOK e stHasMoreOutput c' := Or.inl ⟨rfl, h⟩

theorem readBits_step (g : Geo e c out) (amount : Nat) (k : Ctx → Nat → Step)
    (hk : ∀ c1 v, ReadOK e.inp c c1 → StepOK e c out (k c1 v)) :
    StepOK e c out (match readBits e.inp amount c with
      | (c1, none) => .fin e.eoi c1 out
      | (c1, some v) => k c1 v) :=
  readBits_cases g.inLe amount k (fun _ h hi => ⟨Adv.of_read g h rfl rfl, eoi_ok hi⟩) fun c1 v h _ => hk c1 v h

theorem decodeHuff_step (g : Geo e c out) (code : Code) (k : Ctx → Nat → Step)
    (hk : ∀ c1 v, ReadOK e.inp c c1 → StepOK e c out (k c1 v)) :
    StepOK e c out (match decodeHuff e.inp code c with
      | (c1, none) => .fin e.eoi c1 out
      | (c1, some v) => k c1 v) :=
  decodeHuff_cases g.inLe code k (fun _ h hi => ⟨Adv.of_read g h rfl rfl, eoi_ok hi⟩) fun c1 v h _ => hk c1 v h

theorem readByte_step (g : Geo e c out) (k : UInt8 → Ctx) (hi : ∀ b, (k b).inPos = c.inPos + 1)
    (ho : ∀ b, (k b).outPos = c.outPos) :
    StepOK e c out (match e.inp[c.inPos]? with
      | none => .fin e.eoi c out
      | some b => .cont (k b) out) :=
  readByte_cases g.inLe _ (fun h => ⟨Adv.refl g, eoi_ok h⟩) fun b h => Adv.of_pos g (hi b ▸ h) (ho b)

theorem stReadBlockHeader_ok (g : Geo e c out) : StepOK e c out (stReadBlockHeader e c out) :=
  readBits_step g 3 _ fun _ _ h =>
    iteInduction (fun _ => Adv.of_read g h rfl rfl) fun _ =>
      iteInduction (fun _ => Adv.of_read g h (initTree_inPos _ _ _) (initTree_outPos _ _ _)) fun _ =>
        iteInduction (fun _ => Adv.of_read g h rfl rfl) fun _ => Adv.of_read g h rfl rfl

theorem stRawHeader_ok (g : Geo e c out) : StepOK e c out (stRawHeader e c out) := by
  refine iteInduction (fun _ => iteInduction (fun _ => ?_) fun _ => ?_) fun _ => ?_
  · exact readBits_step g 8 _ fun _ _ h => Adv.of_read g h rfl rfl
  · exact readByte_step g _ (fun _ => rfl) (fun _ => rfl)
  · exact iteInduction (fun _ => Adv.of_pos g g.inLe rfl) fun _ => iteInduction (fun _ => Adv.of_pos g g.inLe rfl) fun _ =>
      iteInduction (fun _ => Adv.of_pos g g.inLe rfl) fun _ => Adv.of_pos g g.inLe rfl

theorem stRawStoreFirstByte_ok (g : Geo e c out) : StepOK e c out (stRawStoreFirstByte e c out) :=
  have ho := g.outLe
  iteInduction (fun (h : e.outEnd - c.outPos = 0) => ⟨Adv.refl g, hmo_ok (by omega)⟩)
    fun (h : ¬ e.outEnd - c.outPos = 0) =>
      have hw : c.outPos + 1 ≤ e.outEnd := by omega
      iteInduction (fun _ => Adv.of_write 1 g g.inLe rfl hw (sameOutside_set _ _ _))
        fun _ => Adv.of_write 1 g g.inLe rfl hw (sameOutside_set _ _ _)

theorem stRawMemcpy1_ok (g : Geo e c out) : StepOK e c out (stRawMemcpy1 e c out) :=
  have ho := g.outLe
  iteInduction (fun _ => Adv.of_pos g g.inLe rfl) fun _ =>
    iteInduction (fun (h : e.outEnd - c.outPos = 0) => ⟨Adv.refl g, hmo_ok (by omega)⟩) fun _ => Adv.of_pos g g.inLe rfl

theorem stRawMemcpy2_ok (g : Geo e c out) : StepOK e c out (stRawMemcpy2 e c out) :=
  have hi := g.inLe
  have ho := g.outLe
  iteInduction
    (fun _ => Adv.of_write _ g (Nat.le_trans (Nat.add_le_add_left (Nat.le_trans (Nat.min_le_left _ _) (Nat.min_le_right _ _)) _) (by omega))
      rfl (Nat.le_trans (Nat.add_le_add_left (Nat.le_trans (Nat.min_le_left _ _) (Nat.min_le_left _ _)) _) (by unfold wrBytesLeft; omega))
      (copyIn_sameOutside _ _ _ _ _))
    fun _ => ⟨Adv.refl g, eoi_ok (by omega)⟩

theorem stReadTableSizes_ok (g : Geo e c out) : StepOK e c out (stReadTableSizes e c out) :=
  iteInduction (fun _ => readBits_step g _ _ fun _ _ h => Adv.of_read g h rfl rfl) fun _ =>
    iteInduction (fun _ => Adv.of_pos g g.inLe rfl) fun _ => Adv.of_pos g g.inLe rfl

theorem stReadHufflenTableCodeSize_ok (g : Geo e c out) : StepOK e c out (stReadHufflenTableCodeSize e c out) :=
  iteInduction (fun _ => readBits_step g _ _ fun _ _ h => Adv.of_read g h rfl rfl) fun _ =>
    Adv.of_pos g (Nat.le_trans (Nat.le_of_eq (initTree_inPos _ _ _)) g.inLe) (initTree_outPos _ _ _)

theorem stReadLitlenDistTablesCodeSize_ok (g : Geo e c out) :
    StepOK e c out (stReadLitlenDistTablesCodeSize e c out) :=
  iteInduction
    (fun _ => decodeHuff_step g _ _ fun _ _ h =>
      iteInduction (fun _ => Adv.of_read g h rfl rfl) fun _ =>
        iteInduction (fun _ => Adv.of_read g h rfl rfl) fun _ => Adv.of_read g h rfl rfl)
    fun _ => iteInduction (fun _ => Adv.of_pos g g.inLe rfl) fun _ =>
      Adv.of_pos g (Nat.le_trans (Nat.le_of_eq (initTree_inPos _ _ _)) g.inLe) (initTree_outPos _ _ _)

theorem stWriteSymbol_ok (g : Geo e c out) : StepOK e c out (stWriteSymbol e c out) :=
  have ho := g.outLe
  iteInduction (fun _ => Adv.of_pos g g.inLe rfl) fun _ =>
    iteInduction
      (fun (h : e.outEnd - c.outPos > 0) => Adv.of_write 1 g g.inLe rfl (by omega) (sameOutside_set _ _ _))
      fun (h : ¬ e.outEnd - c.outPos > 0) => ⟨Adv.refl g, hmo_ok (by omega)⟩

theorem stHuffDecodeOuterLoop1_ok (g : Geo e c out) : StepOK e c out (stHuffDecodeOuterLoop1 e c out) := by
  unfold stHuffDecodeOuterLoop1
  dsimp only
  -- named, so that unfolding `StepOK` does not start evaluating the tests on them
  generalize c.r.counter % 512 = sym
  generalize lengthBaseExtra sym = be
  exact iteInduction (fun _ => Adv.of_pos g g.inLe rfl) fun _ =>
    iteInduction (fun _ => Adv.of_pos g g.inLe rfl) fun _ => Adv.of_pos g g.inLe rfl

theorem stDecodeDistance_ok (g : Geo e c out) : StepOK e c out (stDecodeDistance e c out) :=
  decodeHuff_step g _ _ fun _ _ h =>
    iteInduction (fun _ => Adv.of_read g h rfl rfl) fun _ => Adv.of_read g h rfl rfl

theorem stMatch_ok (g : Geo e c out) : StepOK e c out (stMatch e c out) :=
  have ho := g.outLe
  iteInduction (fun _ => Adv.of_pos g g.inLe rfl) fun _ => iteInduction (fun _ => Adv.of_pos g g.inLe rfl) fun _ =>
    iteInduction (fun (h : e.outEnd - c.outPos = 0) => ⟨Adv.of_pos g g.inLe rfl, hmo_ok (show c.outPos = e.outEnd by omega)⟩)
      fun _ =>
        have hn : c.outPos + min (e.outEnd - c.outPos) c.r.counter ≤ e.outEnd := by omega
        iteInduction (fun _ => Adv.of_write _ g g.inLe rfl hn (copyBytes_sameOutside _ _ _ _ _ _))
          fun _ => Adv.of_write _ g g.inLe rfl hn (copyBytes_sameOutside _ _ _ _ _ _)

theorem stBlockDone_ok (g : Geo e c out) : StepOK e c out (stBlockDone e c out) :=
  have hi : ∀ u, c.inPos - u ≤ e.inp.size := fun _ => Nat.le_trans (Nat.sub_le _ _) g.inLe
  iteInduction
    (fun _ => iteInduction (fun _ => Adv.of_pos g (hi _) rfl) fun _ => Adv.of_pos g (hi _) rfl)
    fun _ => iteInduction (fun hstop => ⟨Adv.refl g, Or.inr (Or.inr (Or.inr (Or.inr ⟨rfl, hstop⟩)))⟩)
      fun _ => Adv.of_pos g g.inLe rfl

theorem stReadAdler32_ok (g : Geo e c out) : StepOK e c out (stReadAdler32 e c out) := by
  refine iteInduction (fun _ => iteInduction (fun _ => ?_) fun _ => ?_) fun _ => Adv.of_pos g g.inLe rfl
  · exact readBits_step g 8 _ fun _ _ h => Adv.of_read g h rfl rfl
  · exact readByte_step g _ (fun _ => rfl) (fun _ => rfl)

theorem step_ok (g : Geo e c out) : StepOK e c out (step e c out) :=
  stepAt_cases (P := fun s f => c.r.state = s → StepOK e c out (f e c out))
    (fun _ => Adv.of_pos g g.inLe rfl) (fun _ => readByte_step g _ (fun _ => rfl) (fun _ => rfl))
    (fun _ => readByte_step g _ (fun _ => rfl) (fun _ => rfl))
    (fun _ => stReadBlockHeader_ok g) (fun _ => readBits_step g _ _ fun _ _ h => Adv.of_read g h rfl rfl) (fun _ => stRawHeader_ok g)
    (fun _ => readBits_step g _ _ fun _ _ h => Adv.of_read g h rfl rfl) (fun _ => stRawStoreFirstByte_ok g) (fun _ => stRawMemcpy1_ok g)
    (fun _ => stRawMemcpy2_ok g) (fun _ => stReadTableSizes_ok g) (fun _ => stReadHufflenTableCodeSize_ok g)
    (fun _ => stReadLitlenDistTablesCodeSize_ok g) (fun _ => readBits_step g _ _ fun _ _ h => Adv.of_read g h rfl rfl)
    (fun _ => decodeHuff_step g _ _ fun _ _ h => Adv.of_read g h rfl rfl) (fun _ => stWriteSymbol_ok g)
    (fun _ => stHuffDecodeOuterLoop1_ok g) (fun _ => readBits_step g _ _ fun _ _ h => Adv.of_read g h rfl rfl)
    (fun _ => stDecodeDistance_ok g) (fun _ => readBits_step g _ _ fun _ _ h => Adv.of_read g h rfl rfl)
    (fun _ => stMatch_ok g) (fun _ => stMatch_ok g) (fun _ => stBlockDone_ok g) (fun _ => stReadAdler32_ok g)
    (fun h => ⟨Adv.refl g, Or.inr (Or.inr (Or.inl ⟨rfl, h⟩))⟩)
    (fun _ hs h => ⟨Adv.refl g, Or.inr (Or.inr (Or.inr (Or.inl ⟨rfl, h ▸ hs⟩)))⟩) c.r.state rfl

theorem Adv.trans {c1 c2 : Ctx} {out1 out2 : Array UInt8} (h1 : Adv e c out c1 out1)
    (h2 : Adv e c1 out1 c2 out2) : Adv e c out c2 out2 :=
  ⟨h2.geo, Nat.le_trans h1.mono h2.mono,
    (h2.frame.mono h1.mono (Nat.le_refl _)).trans (h1.frame.mono (Nat.le_refl _) h2.mono)⟩

/-- `stModelError` is the status of a run that is out of fuel. -/
theorem run_ok (e : Env) : ∀ (fuel : Nat) (c : Ctx) (out : Array UInt8), Geo e c out →
    Adv e c out (run e fuel c out).2.1 (run e fuel c out).2.2 ∧
    ((run e fuel c out).1 = stModelError ∨ FinOK e (run e fuel c out).1 (run e fuel c out).2.1) := by
  intro fuel
  induction fuel with
  | zero => intro c out g; exact ⟨Adv.refl g, Or.inl rfl⟩
  | succ fuel ih =>
    intro c out g
    have hs := step_ok g
    unfold run
    cases hstep : step e c out with
    | cont c1 out1 =>
      rw [hstep] at hs
      have := ih c1 out1 hs.geo
      exact ⟨hs.trans this.1, this.2⟩
    | fin st c1 out1 =>
      rw [hstep] at hs
      exact ⟨hs.1, Or.inr hs.2⟩

end Model.Core
