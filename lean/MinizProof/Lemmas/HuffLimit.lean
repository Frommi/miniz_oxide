/-
`enforce_max_code_size` is correct for every histogram a Huffman tree can produce: see
`Props/C10.length_limiting_restores_a_complete_code`.

On the deep-first list of `Model/HuffLimit`, `W` is the Kraft sum in units of the deepest level and `M = 2^max`
a full tree. One round (`bump`) takes a code off the deepest level (weight −1, codes −1) and splits a code at
the first non-empty index `j ≥ 1` of the list into two at index `j − 1` (weight −2^j + 2·2^(j−1) = 0, codes +1):
the weight goes down by exactly one, the number of codes stays (`bump_spec`). The split can only fail when all
shallower levels are empty, and then the weight is the count of the deepest level, at most the number of
codes, at most `M` — so not while `M < W` (this is where "at most `2^max` codes" is needed). Hence the
source's precomputed `W − M` rounds end on exactly `M` (`iter_spec`, `limit_spec`); `enforceLv_spec` adds the
folding of the over-long lengths and the passage from the histogram ordered by length.
-/
import MinizProof.Model.HuffLimit
namespace Model.HuffLimit

def Nonneg (l : List Int) : Prop := ∀ x ∈ l, 0 ≤ x

theorem split_spec : ∀ (l l' : List Int), split l = some l' →
    W l' = W l ∧ l'.sum = l.sum + 1 ∧ l'.length = l.length ∧ W l'.tail ≤ W l.tail ∧ (Nonneg l → Nonneg l') := by
  intro l
  induction l with
  | nil => intro l' h; simp [split] at h
  | cons a r ih =>
    intro l' h
    cases r with
    | nil => simp [split] at h
    | cons b rest =>
      unfold split at h
      split at h
      · rename_i hb
        simp only [Option.some.injEq] at h
        subst h
        refine ⟨by simp only [W]; omega, by simp only [List.sum_cons]; omega, rfl, by simp only [List.tail_cons, W]; omega, ?_⟩
        intro hn x hx
        simp only [List.mem_cons] at hx
        have ha := hn a (by simp)
        have hb0 := hn b (by simp)
        rcases hx with rfl | rfl | hx
        · omega
        · omega
        · exact hn x (by simp [hx])
      · rename_i hb
        cases hs : split (b :: rest) with
        | none => rw [hs] at h; simp at h
        | some m =>
          rw [hs] at h
          simp only [Option.map_some, Option.some.injEq] at h
          subst h
          obtain ⟨h1, h2, h3, _, h5⟩ := ih m hs
          refine ⟨by simp only [W] at h1 ⊢; omega, by simp only [List.sum_cons] at h2 ⊢; omega, by simp [h3], by simp only [List.tail_cons]; omega, ?_⟩
          intro hn x hx
          simp only [List.mem_cons] at hx
          rcases hx with rfl | hx
          · exact hn _ (by simp)
          · exact h5 (fun y hy => hn y (by simp only [List.mem_cons] at hy ⊢; exact .inr hy)) x hx

theorem split_none : ∀ (l : List Int), split l = none → ∀ x ∈ l.tail, x = 0 := by
  intro l
  induction l with
  | nil => intro _ x hx; simp at hx
  | cons a r ih =>
    intro h x hx
    cases r with
    | nil => simp at hx
    | cons b rest =>
      unfold split at h
      split at h
      · simp at h
      · rename_i hb
        have hb0 : b = 0 := by simpa using hb
        simp only [Option.map_eq_none_iff] at h
        simp only [List.tail_cons, List.mem_cons] at hx
        rcases hx with rfl | hx
        · exact hb0
        · exact ih h x (by simpa using hx)

theorem W_zero_tail : ∀ (l : List Int), (∀ x ∈ l, x = 0) → W l = 0 ∧ l.sum = 0 := by
  intro l
  induction l with
  | nil => intro _; exact ⟨rfl, rfl⟩
  | cons a r ih =>
    intro h
    have ha := h a (by simp)
    obtain ⟨h1, h2⟩ := ih (fun x hx => h x (by simp [hx]))
    exact ⟨by simp only [W]; omega, by simp only [List.sum_cons]; omega⟩

/-- the loop invariant: counts are non-negative, the levels above the deepest weigh at most a full
    tree (`M = 2^max`), and there are at most `M` codes -/
structure Inv (M : Int) (l : List Int) : Prop where
  nn   : Nonneg l
  tl   : 2 * W l.tail ≤ M
  cnt  : l.sum ≤ M
  ne   : l ≠ []

theorem bump_spec (M : Int) (l : List Int) (h : Inv M l) (hbig : M < W l) :
    Inv M (bump l) ∧ W (bump l) = W l - 1 ∧ (bump l).sum = l.sum ∧ (bump l).length = l.length := by
  obtain ⟨hnn, htl, hcnt, hne⟩ := h
  cases l with
  | nil => exact absurd rfl hne
  | cons a rest =>
    simp only [List.tail_cons] at htl
    have hW : W (a :: rest) = a + 2 * W rest := rfl
    have ha1 : 1 ≤ a := by omega
    have hb : bump (a :: rest) = (split ((a - 1) :: rest)).getD ((a - 1) :: rest) := rfl
    rw [hb]
    cases hs : split ((a - 1) :: rest) with
    | none =>
      exfalso
      have hz := split_none _ hs
      simp only [List.tail_cons] at hz
      obtain ⟨hw0, hs0⟩ := W_zero_tail rest hz
      simp only [List.sum_cons] at hcnt
      omega
    | some l' =>
      simp only [Option.getD_some]
      have hnn' : Nonneg ((a - 1) :: rest) := by
        intro x hx
        simp only [List.mem_cons] at hx
        rcases hx with rfl | hx
        · omega
        · exact hnn x (by simp [hx])
      obtain ⟨h1, h2, h3, h4, h5⟩ := split_spec _ l' hs
      have hW1 : W ((a - 1) :: rest) = a - 1 + 2 * W rest := rfl
      simp only [List.tail_cons] at h4
      simp only [List.sum_cons] at h2 hcnt ⊢
      refine ⟨⟨h5 hnn', by omega, by omega, ?_⟩, by omega, by omega, by simpa using h3⟩
      intro he; rw [he] at h3; simp at h3

theorem iter_spec (M : Int) : ∀ (k : Nat) (l : List Int), Inv M l → M + k ≤ W l →
    Inv M (iter k l) ∧ W (iter k l) = W l - k ∧ (iter k l).sum = l.sum ∧ (iter k l).length = l.length := by
  intro k
  induction k with
  | zero => intro l h _; exact ⟨h, by simp [iter], rfl, rfl⟩
  | succ k ih =>
    intro l h hk
    obtain ⟨b1, b2, b3, b4⟩ := bump_spec M l h (by omega)
    obtain ⟨i1, i2, i3, i4⟩ := ih (bump l) b1 (by omega)
    unfold iter
    exact ⟨i1, by omega, by omega, by omega⟩

/-- THE LOOP, for every histogram satisfying the invariant: afterwards the weight is exactly a full
    tree when it was at least that before (and nothing changes when it was less), the number of codes
    is what it was, the counts are non-negative. -/
theorem limit_spec (M : Int) (l : List Int) (h : Inv M l) :
    let r := iter (W l - M).toNat l
    Nonneg r ∧ r.sum = l.sum ∧ r.length = l.length ∧ (M ≤ W l → W r = M) ∧ (W l < M → r = l) := by
  intro r
  by_cases hge : M ≤ W l
  · obtain ⟨i1, i2, i3, i4⟩ := iter_spec M (W l - M).toNat l h (by omega)
    exact ⟨i1.nn, i3, i4, fun _ => by show W (iter _ l) = M; omega, fun hlt => by omega⟩
  · have hz : (W l - M).toNat = 0 := by omega
    have hr : r = l := by show iter (W l - M).toNat l = l; rw [hz]; rfl
    rw [hr]
    exact ⟨h.nn, rfl, rfl, fun h' => absurd h' hge, fun _ => rfl⟩

theorem W_nonneg : ∀ (l : List Int), Nonneg l → 0 ≤ W l := by
  intro l
  induction l with
  | nil => intro _; exact Int.le_refl _
  | cons a r ih =>
    intro h
    have := ih (fun x hx => h x (by simp [hx]))
    have := h a (by simp)
    simp only [W]; omega

theorem W_append : ∀ (x y : List Int), W (x ++ y) = W x + 2 ^ x.length * W y := by
  intro x y
  induction x with
  | nil => simp [W]
  | cons a r ih =>
    simp only [List.cons_append, W, ih, List.length_cons, Int.pow_succ]
    grind

theorem W_le_sum : ∀ (l : List Int), Nonneg l → W l ≤ 2 ^ l.length * l.sum := by
  intro l
  induction l with
  | nil => intro _; simp [W]
  | cons a r ih =>
    intro h
    have h1 := ih (fun x hx => h x (by simp [hx]))
    have ha := h a (by simp)
    have hp : (0 : Int) < 2 ^ r.length := Int.pow_pos (by decide)
    have h2 : 0 ≤ (2 ^ r.length - 1) * a := Int.mul_nonneg (by omega) ha
    rw [Int.sub_mul] at h2
    simp only [W, List.length_cons, Int.pow_succ, List.sum_cons]
    have e : (2 : Int) ^ r.length * 2 * (a + r.sum) = 2 * (2 ^ r.length * a) + 2 * (2 ^ r.length * r.sum) := by grind
    rw [e]
    generalize (2 : Int) ^ r.length * a = pa at h2
    generalize (2 : Int) ^ r.length * r.sum = ps at h1
    omega

theorem sum_nonneg : ∀ (l : List Int), Nonneg l → 0 ≤ l.sum := by
  intro l
  induction l with
  | nil => intro _; simp
  | cons a r ih =>
    intro h
    have ha := h a (by simp)
    have := ih (fun y hy => h y (by simp [hy]))
    simp only [List.sum_cons]; omega

/-- `enforce_max_code_size` on a histogram split as `A` (lengths `1..max`) and `B` (longer lengths):
    for EVERY histogram of a prefix code (Kraft sum at most 1) with between 1 and `2^max` codes. -/
theorem enforceLv_spec (max : Nat) (A B : List Int) (hA : A.length = max) (h1 : 1 ≤ max)
    (hnA : Nonneg A) (hnB : Nonneg B) (hfit : A.sum + B.sum ≤ 2 ^ max)
    (hk : kraft (A ++ B) ≤ 2 ^ (A ++ B).length) :
    (enforceLv max A B).length = max ∧ Nonneg (enforceLv max A B) ∧
    (enforceLv max A B).sum = A.sum + B.sum ∧
    kraft (enforceLv max A B) ≤ 2 ^ max ∧
    (kraft (A ++ B) = 2 ^ (A ++ B).length → kraft (enforceLv max A B) = 2 ^ max) ∧
    (B = [] → kraft A < 2 ^ max → enforceLv max A B = A) := by
  -- the deep-first list
  have hrl : A.reverse.length = max := by rw [List.length_reverse]; exact hA
  cases hrev : A.reverse with
  | nil => rw [hrev] at hrl; simp at hrl; omega
  | cons a r =>
    have hnr : Nonneg (a :: r) := by
      intro x hx; rw [← hrev] at hx; exact hnA x (List.mem_reverse.mp hx)
    have hsumA : a + r.sum = A.sum := by
      have := List.sum_reverse A
      rw [hrev, List.sum_cons] at this; exact this
    have hBs := sum_nonneg B hnB
    -- Kraft of the whole histogram, split
    have hkr : kraft (A ++ B) = W B.reverse + 2 ^ B.length * W (a :: r) := by
      unfold kraft
      rw [List.reverse_append, W_append, List.length_reverse, hrev]
    have hnB' : Nonneg B.reverse := fun x hx => hnB x (List.mem_reverse.mp hx)
    have hWB0 := W_nonneg B.reverse hnB'
    have hWBs := W_le_sum B.reverse hnB'
    rw [List.length_reverse, List.sum_reverse] at hWBs
    have hpow : (2 : Int) ^ (A ++ B).length = 2 ^ B.length * 2 ^ max := by
      rw [List.length_append, hA, Nat.add_comm, Int.pow_add]
    have hpB : (0 : Int) < 2 ^ B.length := Int.pow_pos (by decide)
    -- the levels 1..max weigh at most a full tree
    have hWA : W (a :: r) ≤ 2 ^ max := by
      rw [hkr, hpow] at hk
      have : 2 ^ B.length * W (a :: r) ≤ 2 ^ B.length * 2 ^ max := by omega
      exact Int.le_of_mul_le_mul_left this hpB
    have ha0 := hnr a (by simp)
    have hWr0 := W_nonneg r (fun x hx => hnr x (by simp [hx]))
    have hWar : W (a :: r) = a + 2 * W r := rfl
    have hinv : Inv (2 ^ max) ((a + B.sum) :: r) :=
      ⟨by intro x hx
          simp only [List.mem_cons] at hx
          rcases hx with rfl | hx
          · omega
          · exact hnr x (by simp [hx]),
       by simp only [List.tail_cons]; omega,
       by simp only [List.sum_cons]; omega,
       by simp⟩
    obtain ⟨l1, l2, l3, l4, l5⟩ := limit_spec (2 ^ max) _ hinv
    have hWlv : W ((a + B.sum) :: r) = W (a :: r) + B.sum := by simp only [W]; omega
    have hE : enforceLv max A B = (iter (W ((a + B.sum) :: r) - 2 ^ max).toNat ((a + B.sum) :: r)).reverse := by
      unfold enforceLv; rw [hrev]
    rw [hE]
    refine ⟨by rw [List.length_reverse, l3, ← hrl, hrev]; rfl, fun x hx => l1 x (List.mem_reverse.mp hx),
      by rw [List.sum_reverse, l2, List.sum_cons]; omega, ?_, ?_, ?_⟩
    · unfold kraft
      rw [List.reverse_reverse]
      by_cases hge : 2 ^ max ≤ W ((a + B.sum) :: r)
      · rw [l4 hge]; exact Int.le_refl _
      · rw [l5 (by omega)]; omega
    · intro hfull
      unfold kraft
      rw [List.reverse_reverse]
      apply l4
      -- complete before ⇒ at least a full tree after folding
      rw [hkr, hpow] at hfull
      rw [hWlv]
      have : 2 ^ B.length * 2 ^ max ≤ 2 ^ B.length * (W (a :: r) + B.sum) := by
        rw [Int.mul_add]; omega
      exact Int.le_of_mul_le_mul_left this hpB
    · intro hB hlt
      subst hB
      unfold kraft at hlt
      rw [hrev] at hlt
      have hz : (a + ([] : List Int).sum) = a := by simp
      rw [hz] at l5 ⊢
      rw [l5 hlt, ← hrev, List.reverse_reverse]

theorem le_sum_of_mem : ∀ (l : List Int), Nonneg l → ∀ x ∈ l, x ≤ l.sum := by
  intro l
  induction l with
  | nil => intro _ x hx; simp at hx
  | cons a r ih =>
    intro h x hx
    have ha := h a (by simp)
    have hr : Nonneg r := fun y hy => h y (by simp [hy])
    have hs := sum_nonneg r hr
    simp only [List.mem_cons] at hx
    simp only [List.sum_cons]
    rcases hx with rfl | hx
    · omega
    · have := ih hr x hx; omega

/-- BETWEEN THE ROUNDS of the loop every count stays between 0 and the number of codes: no count goes
    negative, none exceeds what an `i32` (or a `u16`) holds, for every histogram within the hypotheses -/
theorem rounds_stay_in_range (M : Int) (l : List Int) (h : Inv M l) (k : Nat) (hk : M + k ≤ W l) :
    ∀ x ∈ iter k l, 0 ≤ x ∧ x ≤ l.sum := by
  obtain ⟨i1, _, i3, _⟩ := iter_spec M k l h hk
  intro x hx
  exact ⟨i1.nn x hx, by rw [← i3]; exact le_sum_of_mem _ i1.nn x hx⟩

end Model.HuffLimit
