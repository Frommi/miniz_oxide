/-
Call-level consequences of the per-state invariants (`Lemmas/CoreFrame`): what one call of the
decoder model guarantees about counts, writes and status (for Props/C05, C08).
Every later statement about `decompress` starts here: `decompress_bad` / `decompress_eq` split a call
into the geometry test and the epilogue of the run `callRun` under the environment `callEnv`; the
`epilogue_*` equations give each field of the result, so that `epilogue` is never unfolded again.
-/
import MinizProof.Lemmas.CoreFrame
namespace Model.Core

@[simp] theorem epilogue_written (flags outPos outEnd : Nat) (st : Int) (c : Ctx) (out : Array UInt8) :
    (epilogue flags outPos outEnd st c out).written = c.outPos - outPos :=
  iteInduction (motive := fun R : Res => R.written = c.outPos - outPos) (fun _ => rfl) fun _ => rfl
@[simp] theorem epilogue_consumed (flags outPos outEnd : Nat) (st : Int) (c : Ctx) (out : Array UInt8) :
    (epilogue flags outPos outEnd st c out).consumed = c.inPos - exitUndo st c :=
  iteInduction (motive := fun R : Res => R.consumed = c.inPos - exitUndo st c) (fun _ => rfl) fun _ => rfl
@[simp] theorem epilogue_out (flags outPos outEnd : Nat) (st : Int) (c : Ctx) (out : Array UInt8) :
    (epilogue flags outPos outEnd st c out).out = out :=
  iteInduction (motive := fun R : Res => R.out = out) (fun _ => rfl) fun _ => rfl
@[simp] theorem epilogue_state (flags outPos outEnd : Nat) (st : Int) (c : Ctx) (out : Array UInt8) :
    (epilogue flags outPos outEnd st c out).r.state = exitState st c :=
  iteInduction (motive := fun R : Res => R.r.state = exitState st c) (fun _ => rfl) fun _ => rfl
theorem epilogue_r (flags outPos outEnd : Nat) (st : Int) (c : Ctx) (out : Array UInt8) :
    (epilogue flags outPos outEnd st c out).r =
      { exitRegs st c with
        checkAdler32 := if needAdler flags && decide (exitStatus st c outEnd ≥ 0) then
            Spec.adler32 (exitRegs st c).checkAdler32 (out.extract outPos c.outPos).toList
          else (exitRegs st c).checkAdler32 } := by
  by_cases h : (needAdler flags && decide (exitStatus st c outEnd ≥ 0)) = true
  · rw [if_pos h]; exact congrArg Res.r (if_pos h)
  · rw [if_neg h]; exact congrArg Res.r (if_neg h)
theorem exitStatus_of_ne (st : Int) (c : Ctx) (outEnd : Nat) (h : st ≠ stNeedsMoreInput) :
    exitStatus st c outEnd = st := by
  unfold exitStatus
  rw [if_neg]
  simp [h]
theorem epilogue_status_eq (flags outPos outEnd : Nat) (st : Int) (c : Ctx) (out : Array UInt8) :
    (epilogue flags outPos outEnd st c out).status =
      if (needAdler flags && decide (exitStatus st c outEnd ≥ 0)) &&
        (exitStatus st c outEnd == stDone && hasFlag flags fParseZlib &&
          Spec.adler32 (exitRegs st c).checkAdler32 (out.extract outPos c.outPos).toList != (exitRegs st c).zAdler32)
      then stAdler32Mismatch else exitStatus st c outEnd := by
  by_cases h : (needAdler flags && decide (exitStatus st c outEnd ≥ 0)) = true
  · rw [h, Bool.true_and]; exact congrArg Res.status (if_pos h)
  · rw [Bool.eq_false_iff.mpr h, Bool.false_and, if_neg Bool.false_ne_true]; exact congrArg Res.status (if_neg h)

theorem epilogue_status_neg (flags outPos outEnd : Nat) (st : Int) (c : Ctx) (out : Array UInt8)
    (h : exitStatus st c outEnd < 0) :
    (epilogue flags outPos outEnd st c out).status = exitStatus st c outEnd := by
  rw [epilogue_status_eq, decide_eq_false (Int.not_le.mpr h), Bool.and_false, Bool.false_and]
  rfl

theorem epilogue_status (flags outPos outEnd : Nat) (st : Int) (c : Ctx) (out : Array UInt8) :
    (epilogue flags outPos outEnd st c out).status = exitStatus st c outEnd ∨
    ((epilogue flags outPos outEnd st c out).status = stAdler32Mismatch ∧ exitStatus st c outEnd = stDone) := by
  rw [epilogue_status_eq]
  refine iteInduction (motive := fun s : Int => s = exitStatus st c outEnd ∨
    (s = stAdler32Mismatch ∧ exitStatus st c outEnd = stDone)) (fun h => .inr ⟨rfl, ?_⟩) fun _ => .inl rfl
  simp only [Bool.and_eq_true, beq_iff_eq] at h
  exact h.2.1.1

theorem endOfInput_cases (flags : Nat) :
    endOfInput flags = stNeedsMoreInput ∨ endOfInput flags = stFailedCannotMakeProgress :=
  iteInduction (motive := fun s => s = stNeedsMoreInput ∨ s = stFailedCannotMakeProgress) (fun _ => .inl rfl)
    fun _ => .inr rfl

theorem exitUndo_starved {st : Int} {c : Ctx} (h : st = stNeedsMoreInput ∨ st = stFailedCannotMakeProgress) :
    exitUndo st c = 0 := by
  unfold exitUndo
  rcases h with h | h <;> rw [h] <;> rfl

structure CallFacts (inp out : Array UInt8) (outPos budget : Nat) (res : Res) : Prop where
  size     : res.out.size = out.size
  consumed : res.consumed ≤ inp.size
  wBudget  : res.written ≤ budget
  room     : res.written ≤ out.size - outPos
  frame    : ∀ i, (i < outPos ∨ outPos + res.written ≤ i) → res.out[i]? = out[i]?
  hmo      : res.status = stHasMoreOutput → res.written = min budget (out.size - outPos)
  nmi      : res.status = stNeedsMoreInput ∨ res.status = stFailedCannotMakeProgress → res.consumed = inp.size

/-- The only override: a starved exit with a full window is reported as "has more output". -/
theorem exitStatus_cases (st : Int) (c : Ctx) (outEnd : Nat) : exitStatus st c outEnd = st ∨
    (exitStatus st c outEnd = stHasMoreOutput ∧ st = stNeedsMoreInput ∧ c.outPos = outEnd) := by
  unfold exitStatus
  split
  · rename_i h
    simp only [Bool.and_eq_true, beq_iff_eq] at h
    exact Or.inr ⟨rfl, h.1.1, h.1.2⟩
  · exact Or.inl rfl

theorem epilogue_done {flags p E : Nat} {st : Int} {c : Ctx} {o : Array UInt8}
    (h : (epilogue flags p E st c o).status = stDone) : st = stDone := by
  rcases epilogue_status flags p E st c o with h1 | h1
  · rcases exitStatus_cases st c E with h2 | h2
    · exact h2.symm.trans (h1.symm.trans h)
    · exact absurd (h2.1.symm.trans (h1.symm.trans h)) (by decide)
  · exact absurd (h1.1.symm.trans h) (by decide)

theorem epilogue_status_of_ne {flags p E : Nat} {st : Int} {c : Ctx} {o : Array UInt8}
    (hn : st ≠ stNeedsMoreInput) (hd : st ≠ stDone) : (epilogue flags p E st c o).status = st := by
  have hx := exitStatus_of_ne st c E hn
  rcases epilogue_status flags p E st c o with h | h
  · exact h.trans hx
  · exact absurd (hx.symm.trans h.2) hd

theorem epilogue_failed (flags pos E : Nat) (c : Ctx) (out : Array UInt8) :
    (epilogue flags pos E stFailed c out).status = stFailed :=
  epilogue_status_of_ne (by decide) (by decide)

theorem epilogue_status_raw_done {flags outPos outEnd : Nat} {c : Ctx} {out : Array UInt8}
    (hz : hasFlag flags fParseZlib = false) : (epilogue flags outPos outEnd stDone c out).status = stDone := by
  rw [epilogue_status_eq, exitStatus_of_ne _ _ _ (by decide), hz, Bool.and_false, Bool.false_and, Bool.and_false]
  exact if_neg Bool.false_ne_true

theorem badGeometry_false {flags n p : Nat} :
    badGeometry flags n p = false ↔ (!hasFlag flags fNonWrapping && !isPow2OrZero n) = false ∧ p ≤ n := by
  simp only [badGeometry, Bool.or_eq_false_iff, decide_eq_false_iff_not, Nat.not_lt]

theorem badGeometry_le {flags n p p' : Nat} (h : badGeometry flags n p = false) (hp : p' ≤ n) :
    badGeometry flags n p' = false :=
  badGeometry_false.mpr ⟨(badGeometry_false.mp h).1, hp⟩

theorem badGeometry_flat {flags n p : Nat} (hflat : hasFlag flags fNonWrapping = true) (hp : p ≤ n) :
    badGeometry flags n p = false :=
  badGeometry_false.mpr ⟨by rw [hflat]; rfl, hp⟩

def callEnv (inp out : Array UInt8) (outPos budget flags : Nat) : Env :=
  { inp := inp, flags := flags, outLen := out.size, outEnd := min (outPos + budget) out.size }

def callRun (r : Regs) (inp out : Array UInt8) (outPos budget flags : Nat) : Int × Ctx × Array UInt8 :=
  run (callEnv inp out outPos budget flags) (callFuel r inp (min (outPos + budget) out.size - outPos))
    { r := r, inPos := 0, outPos := outPos } out

theorem decompress_eq (r : Regs) (inp out : Array UInt8) (outPos budget flags : Nat)
    (hg : badGeometry flags out.size outPos = false) :
    decompress r inp out outPos budget flags =
      epilogue flags outPos (min (outPos + budget) out.size) (callRun r inp out outPos budget flags).1
        (callRun r inp out outPos budget flags).2.1 (callRun r inp out outPos budget flags).2.2 :=
  if_neg (by rw [hg]; exact Bool.false_ne_true)

theorem decompress_bad (r : Regs) (inp out : Array UInt8) (outPos budget flags : Nat)
    (hg : badGeometry flags out.size outPos = true) :
    decompress r inp out outPos budget flags =
      { status := stBadParam, consumed := 0, written := 0, r := r, out := out } := by
  unfold decompress
  rw [if_pos hg]

theorem callGeo {r : Regs} {inp out : Array UInt8} {outPos budget flags : Nat}
    (hg : badGeometry flags out.size outPos = false) :
    Geo (callEnv inp out outPos budget flags) { r := r, inPos := 0, outPos := outPos } out :=
  ⟨Nat.zero_le _, Nat.le_min.mpr ⟨Nat.le_add_right _ _, (badGeometry_false.mp hg).2⟩, Nat.min_le_right _ _⟩

theorem callRun_adv (r : Regs) (inp out : Array UInt8) (outPos budget flags : Nat)
    (hg : badGeometry flags out.size outPos = false) :
    Adv (callEnv inp out outPos budget flags) { r := r, inPos := 0, outPos := outPos } out
      (callRun r inp out outPos budget flags).2.1 (callRun r inp out outPos budget flags).2.2 :=
  (run_ok (callEnv inp out outPos budget flags) _ { r := r, inPos := 0, outPos := outPos } out (callGeo hg)).1

theorem callEnv_ring {inp out : Array UInt8} {outPos budget flags : Nat} (hflat : hasFlag flags fNonWrapping = true) :
    (callEnv inp out outPos budget flags).ring = false := by
  show (!hasFlag flags fNonWrapping) = false
  rw [hflat]; rfl

theorem callEnv_outEnd_le {inp out : Array UInt8} {outPos budget flags : Nat} :
    (callEnv inp out outPos budget flags).outEnd ≤ (callEnv inp out outPos budget flags).outLen :=
  Nat.min_le_right _ _

theorem window_sub {a p b n : Nat} (h : a ≤ min (p + b) n) : a - p ≤ b ∧ a - p ≤ n - p :=
  ⟨Nat.sub_le_iff_le_add'.mpr (Nat.le_trans h (Nat.min_le_left _ _)),
    Nat.sub_le_sub_right (Nat.le_trans h (Nat.min_le_right _ _)) p⟩

theorem window_full (p b n : Nat) : min (p + b) n - p = min b (n - p) := by
  rw [← Nat.sub_min_sub_right, Nat.add_sub_cancel_left]

theorem decompress_facts (r : Regs) (inp out : Array UInt8) (outPos budget flags : Nat) :
    CallFacts inp out outPos budget (decompress r inp out outPos budget flags) := by
  by_cases hg : badGeometry flags out.size outPos = true
  · rw [decompress_bad _ _ _ _ _ _ hg]
    exact ⟨rfl, Nat.zero_le _, Nat.zero_le _, Nat.zero_le _, fun _ _ => rfl,
      fun (h : stBadParam = stHasMoreOutput) => absurd h (by decide),
      fun (h : stBadParam = stNeedsMoreInput ∨ stBadParam = stFailedCannotMakeProgress) => absurd h (by decide)⟩
  · have hg : badGeometry flags out.size outPos = false := eq_false_of_ne_true hg
    rw [decompress_eq _ _ _ _ _ _ hg]
    have hr := run_ok (callEnv inp out outPos budget flags) (callFuel r inp (min (outPos + budget) out.size - outPos))
      { r := r, inPos := 0, outPos := outPos } out (callGeo hg)
    rw [show run _ _ _ _ = callRun r inp out outPos budget flags from rfl] at hr
    generalize callRun r inp out outPos budget flags = R at hr ⊢
    obtain ⟨st, c, out'⟩ := R
    obtain ⟨⟨⟨gi, go, ge⟩, hm, hf⟩, hfin⟩ := hr
    dsimp only [callEnv] at gi go ge hm hf hfin ⊢
    have hst := epilogue_status flags outPos (min (outPos + budget) out.size) st c out'
    have hw := window_sub go
    refine ⟨by rw [epilogue_out, hf.1], ?_, ?_, ?_, ?_, ?_, ?_⟩
    · rw [epilogue_consumed]; exact Nat.le_trans (Nat.sub_le _ _) gi
    · rw [epilogue_written]; exact hw.1
    · rw [epilogue_written]; exact hw.2
    · intro i hi
      rw [epilogue_written, Nat.add_sub_cancel' hm] at hi
      rw [epilogue_out]
      exact hf.2 i hi
    · intro hs
      rw [epilogue_written]
      have hfull : c.outPos = min (outPos + budget) out.size := by
        rcases hst with h | h
        · rcases exitStatus_cases st c (min (outPos + budget) out.size) with h2 | h2
          · have h3 : st = stHasMoreOutput := h2.symm.trans (h.symm.trans hs)
            exact (hfin.resolve_left (by rw [h3]; decide)).out_full h3
          · exact h2.2.2
        · exact absurd (h.1 ▸ hs) (by decide)
      rw [hfull]; exact window_full _ _ _
    · intro hs
      rw [epilogue_consumed]
      have hst' : st = stNeedsMoreInput ∨ st = stFailedCannotMakeProgress := by
        rcases hst with h | h
        · rcases exitStatus_cases st c (min (outPos + budget) out.size) with h2 | h2
          · exact h2 ▸ h ▸ hs
          · exact absurd (h2.1 ▸ h ▸ hs) (by decide)
        · exact absurd (h.1 ▸ hs) (by decide)
      rw [exitUndo_starved hst', Nat.sub_zero]
      exact (hfin.resolve_left (by rcases hst' with h | h <;> rw [h] <;> decide)).in_used hst'

end Model.Core
