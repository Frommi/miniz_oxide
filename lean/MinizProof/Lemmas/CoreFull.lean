/-
The other half of "room": a stream the specification accepts whose plaintext does NOT fit the granted
window is reported as "has more output" — never as a failure. Together with the refinement (fits ⇒
Done) and the converse (Done ⇒ accepted and fits) this characterises one call on a valid stream for
every window. Both are instances of the converse walk (`call_ends_raw`, `call_ends_zlib`) with "has more
output" as the only allowed end. Used by Props/C08 and the ring-buffer theory (`CoreRingTheory`, `CoreRingValid`).
-/
import MinizProof.Lemmas.CoreConverse
namespace Model.Core
open Spec

/-- VALID BUT TOO BIG, raw DEFLATE into a flat buffer: the call reports "has more output". -/
theorem full_raw_flat (r : Regs) (inp out : Array UInt8) (outPos budget flags maxDist : Nat) (res : Inflated)
    (hstart : r.state = sStart) (hshape : r.rawHeader.size = 4 ∧ r.tableSizes.size = 3 ∧ r.lenCodes.size = 512)
    (hflat : hasFlag flags fNonWrapping = true) (hz : hasFlag flags fParseZlib = false)
    (hstop : hasFlag flags fStopOnBlockBoundary = false) (hpos : outPos ≤ out.size)
    (hspec : inflateSpec (out.extract 0 outPos) maxDist inp 0 = .accept res)
    (hbig : min (outPos + budget) out.size < outPos + res.out.size) :
    (decompress r inp out outPos budget flags).status = stHasMoreOutput := by
  exact status_of_more (badGeometry_flat hflat hpos) (call_ends_raw (P := (· = stHasMoreOutput)) rfl maxDist hstart hshape
    hflat hz hstop hpos (by rw [inflateSpec_inv hspec]; exact hbig))

theorem full_zlib_flat (r : Regs) (inp out : Array UInt8) (outPos budget flags maxDist : Nat) (res : Inflated)
    (cmf flg : UInt8)
    (hstart : r.state = sStart) (hshape : r.rawHeader.size = 4 ∧ r.tableSizes.size = 3 ∧ r.lenCodes.size = 512)
    (hflat : hasFlag flags fNonWrapping = true) (hz : hasFlag flags fParseZlib = true)
    (hstop : hasFlag flags fStopOnBlockBoundary = false) (hpos : outPos ≤ out.size)
    (h0 : inp[0]? = some cmf) (h1 : inp[1]? = some flg) (hv : zlibHeaderValid cmf.toNat flg.toNat = true)
    (hspec : inflateSpec (out.extract 0 outPos) maxDist inp 16 = .accept res)
    (hbig : min (outPos + budget) out.size < outPos + res.out.size) :
    (decompress r inp out outPos budget flags).status = stHasMoreOutput := by
  exact status_of_more (badGeometry_flat hflat hpos) (call_ends_zlib (P := (· = stHasMoreOutput)) rfl maxDist hstart hshape
    hflat hz hstop hpos h0 h1 hv (by rw [inflateSpec_inv hspec]; exact hbig))

end Model.Core
