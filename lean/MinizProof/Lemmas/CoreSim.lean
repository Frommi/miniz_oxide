/-
Simulation of the specification's reference decoder (`Spec.inflateBlocks`, flat output) by the
decoder model (`Model.Core.step`): output representation (`OutEq`, `Sim`), LZ77 copies, and the states of
a Huffman block one transition at a time (`micro_*`; `Lemmas/CoreTokens` strings them into tokens and the
token loop). Helper lemmas for the refinement theorems (Props/C03, C06).
-/
import MinizProof.Lemmas.CoreReach
namespace Model.Core
open Spec

def OutEq (outA full : Array UInt8) : Prop := ∀ i, i < full.size → outA[i]? = full[i]?

theorem OutEq.getD {outA full : Array UInt8} (h : OutEq outA full) {i : Nat} (hi : i < full.size) :
    outA.getD i 0 = full.getD i 0 := by
  have := h i hi
  simp only [Array.getD_eq_getD_getElem?, this]

theorem prefix_push {α : Type} {lc acc : Array α} (h : ∀ i, i < acc.size → lc[i]? = acc[i]?) (v : α)
    (hs : acc.size < lc.size) : ∀ i, i < (acc.push v).size → (lc.setIfInBounds acc.size v)[i]? = (acc.push v)[i]? := by
  intro i hi
  rw [Array.size_push] at hi
  rw [Array.getElem?_setIfInBounds, Array.getElem?_push]
  by_cases he : i = acc.size
  · subst he; simp [hs]
  · have : acc.size ≠ i := fun h => he h.symm
    simp only [this, ↓reduceIte, he]
    exact h i (Nat.lt_of_le_of_ne (Nat.le_of_lt_succ hi) he)

theorem OutEq.push {outA full : Array UInt8} (h : OutEq outA full) (v : UInt8) (hs : full.size < outA.size) :
    OutEq (outA.setIfInBounds full.size v) (full.push v) := prefix_push h v hs

/-- LZ77 copy on the concatenation `pre ++ out`. -/
def copyFull (full : Array UInt8) (dist : Nat) : Nat → Array UInt8
  | 0 => full
  | n + 1 => copyFull (full.push (full.getD (full.size - dist) 0)) dist n

theorem copyFull_size (dist n : Nat) : ∀ full : Array UInt8, (copyFull full dist n).size = full.size + n := by
  induction n with
  | zero => intro full; rfl
  | succ n ih => intro full; unfold copyFull; rw [ih]; simp; omega

theorem histByte_eq (pre out : Array UInt8) (dist : Nat) (h2 : dist ≤ pre.size + out.size) :
    histByte pre out dist = (pre ++ out).getD ((pre ++ out).size - dist) 0 := by
  unfold histByte
  simp only [Array.getD_eq_getD_getElem?, Array.size_append]
  by_cases h : dist ≤ out.size
  · simp only [h, ↓reduceIte]
    rw [Array.getElem?_append_right (by omega)]
    congr 2; omega
  · simp only [h, ↓reduceIte]
    rw [Array.getElem?_append_left (by omega)]

theorem copyMatch_eq (pre : Array UInt8) (dist : Nat) (n : Nat) : ∀ out : Array UInt8,
    dist ≤ pre.size + out.size → pre ++ copyMatch pre out dist n = copyFull (pre ++ out) dist n := by
  induction n with
  | zero => intro out _; rfl
  | succ n ih =>
    intro out h2
    unfold copyMatch copyFull
    rw [ih _ (by simp; omega), histByte_eq pre out dist h2, Array.append_push]

theorem copyMatch_size (pre : Array UInt8) (dist n : Nat) : ∀ out : Array UInt8,
    (copyMatch pre out dist n).size = out.size + n := by
  induction n with
  | zero => intro out; rfl
  | succ n ih => intro out; unfold copyMatch; rw [ih]; simp; omega

theorem copyBytes_sim (dist rs : Nat) (h1 : 1 ≤ dist) (n : Nat) : ∀ (outA full : Array UInt8),
    OutEq outA full → dist ≤ full.size → full.size + n ≤ outA.size →
    OutEq (copyBytes outA full.size (full.size - dist) rs false n) (copyFull full dist n) := by
  induction n with
  | zero => intro outA full h _ _; exact h
  | succ n ih =>
    intro outA full h h2 h3
    unfold copyBytes copyFull
    simp only [Bool.false_eq_true, ↓reduceIte]
    have hv : outA.getD (full.size - dist) 0 = full.getD (full.size - dist) 0 := h.getD (by omega)
    rw [hv]
    have hp := h.push (full.getD (full.size - dist) 0) (by omega)
    have := ih _ _ hp (by simp; omega) (by simp; omega)
    simp only [Array.size_push] at this
    have e : full.size + 1 - dist = full.size - dist + 1 := by omega
    rw [e] at this
    exact this

theorem copyIn_sim (inp : Array UInt8) (n : Nat) : ∀ (outA full : Array UInt8) (q : Nat) (full' : Array UInt8),
    OutEq outA full → full.size + n ≤ outA.size → copyStored inp q full n = some full' →
    OutEq (copyIn inp outA full.size q n) full' := by
  induction n with
  | zero => intro outA full q full' h _ hc; simp [copyStored] at hc; rw [← hc]; exact h
  | succ n ih =>
    intro outA full q full' h h3 hc
    unfold copyStored at hc
    unfold copyIn
    cases hb : inp[q]? with
    | none => simp [hb] at hc
    | some b =>
      simp only [hb] at hc
      have hv : inp.getD q 0 = b := by simp [Array.getD_eq_getD_getElem?, hb]
      rw [hv]
      have hp := h.push b (by omega)
      have := ih _ _ (q + 1) full' hp (by simp; omega) hc
      simp only [Array.size_push] at this
      exact this

theorem Rep.of_eq {data : Array UInt8} {c c' : Ctx} {pos : Nat} (h : Rep data c pos)
    (h1 : c'.inPos = c.inPos) (h2 : c'.r.numBits = c.r.numBits) (h3 : c'.r.bitBuf = c.r.bitBuf) :
    Rep data c' pos :=
  ⟨by rw [h1]; exact h.inLe, by rw [h1, h2]; exact h.posEq, by rw [h2, h3]; exact h.lt,
   by rw [h2, h3]; exact h.bits⟩

theorem Rep.of_empty {data : Array UInt8} {c : Ctx} (hle : c.inPos ≤ data.size) (hn : c.r.numBits = 0)
    (hb : c.r.bitBuf = 0) : Rep data c (8 * c.inPos) :=
  ⟨hle, by rw [hn]; rfl, by rw [hn, hb]; decide, by rw [hn]; intro i hi; omega⟩

theorem Rep.inPos_eq {data : Array UInt8} {c : Ctx} {pos : Nat} (h : Rep data c pos) (h8 : c.r.numBits < 8) :
    c.inPos = (pos + 7) / 8 := by
  have := h.posEq
  omega

/-- Registers a Huffman block leaves alone. -/
structure Inv (c c' : Ctx) : Prop where
  finish : c'.r.finish = c.r.finish
  z0     : c'.r.zHeader0 = c.r.zHeader0
  z1     : c'.r.zHeader1 = c.r.zHeader1
  zA     : c'.r.zAdler32 = c.r.zAdler32
  chk    : c'.r.checkAdler32 = c.r.checkAdler32
  lit    : c'.r.litCode = c.r.litCode
  dist   : c'.r.distCode = c.r.distCode
  rh     : c'.r.rawHeader = c.r.rawHeader
  ts     : c'.r.tableSizes = c.r.tableSizes
  lc     : c'.r.lenCodes = c.r.lenCodes

theorem Inv.refl (c : Ctx) : Inv c c := ⟨rfl, rfl, rfl, rfl, rfl, rfl, rfl, rfl, rfl, rfl⟩
theorem Inv.trans {a b c : Ctx} (h1 : Inv a b) (h2 : Inv b c) : Inv a c :=
  ⟨h2.finish.trans h1.finish, h2.z0.trans h1.z0, h2.z1.trans h1.z1, h2.zA.trans h1.zA,
   h2.chk.trans h1.chk, h2.lit.trans h1.lit, h2.dist.trans h1.dist, h2.rh.trans h1.rh, h2.ts.trans h1.ts,
   h2.lc.trans h1.lc⟩
theorem Inv.of_read {inp : Array UInt8} {c c' : Ctx} (h : ReadOK inp c c') : Inv c c' := by
  have := h.regs
  exact ⟨by rw [this], by rw [this], by rw [this], by rw [this], by rw [this], by rw [this], by rw [this],
    by rw [this], by rw [this], by rw [this]⟩

/-- The model state represents the specification's decoder state `(pos, full)`. -/
structure Sim (e : Env) (c : Ctx) (outA : Array UInt8) (pos : Nat) (full : Array UInt8) : Prop where
  rep    : Rep e.inp c pos
  nb8    : c.r.numBits < 8
  outPos : c.outPos = full.size
  outEq  : OutEq outA full
  size   : outA.size = e.outLen

theorem readBits_full {data : Array UInt8} {c : Ctx} {pos n v : Nat} (hr : Rep data c pos)
    (hv : bitsAt data pos n = some v) :
    ∃ c1, readBits data n c = (c1, some v) ∧ Rep data c1 (pos + n) ∧ (c.r.numBits < 8 → c1.r.numBits < 8) ∧
      ReadOK data c c1 ∧ c1.r.numBits + n = c.r.numBits + 8 * (c1.inPos - c.inPos) := by
  have h := readBits_rep hr hv
  have hspec := readBits_spec data n c hr.inLe
  exact ⟨_, Prod.ext rfl h.1, h.2, fun h8 => readBits_nb8 h8 h.1, hspec.1, hspec.2.2 v h.1⟩

theorem decodeHuff_full {data : Array UInt8} {code : Code} {c : Ctx} {pos s p : Nat} (hr : Rep data c pos)
    (hs : decodeSym code data pos = .sym s p) :
    ∃ c1, decodeHuff data code c = (c1, some s) ∧ Rep data c1 p ∧ (c.r.numBits < 8 → c1.r.numBits < 8) ∧
      ReadOK data c c1 := by
  have h := decodeHuff_rep hr hs
  exact ⟨_, Prod.ext rfl h.1, h.2.1, h.2.2, (decodeHuff_spec data code c hr.inLe).1⟩

variable {e : Env} {c : Ctx} {outA : Array UInt8}

theorem micro_decodeLitlen {pos s p : Nat} (hs : c.r.state = sDecodeLitlen) (hr : Rep e.inp c pos)
    (hd : decodeSym c.r.litCode e.inp pos = .sym s p) :
    ∃ c1, step e c outA = .cont c1 outA ∧ c1.r.state = sWriteSymbol ∧ c1.r.counter = s ∧
      Rep e.inp c1 p ∧ c1.outPos = c.outPos ∧ Inv c c1 ∧ (c.r.numBits < 8 → c1.r.numBits < 8) := by
  obtain ⟨c1, hdh, hr1, h8, hok⟩ := decodeHuff_full hr hd
  rw [step_DecodeLitlen hs]
  unfold stDecodeLitlen
  rw [hdh]
  have i := Inv.of_read hok
  exact ⟨_, rfl, rfl, rfl, hr1.of_eq rfl rfl rfl, hok.outPos, ⟨i.finish, i.z0, i.z1, i.zA, i.chk, i.lit, i.dist, i.rh, i.ts, i.lc⟩, h8⟩

theorem micro_writeLiteral (hs : c.r.state = sWriteSymbol) (hc : c.r.counter < 256) (hroom : c.outPos < e.outEnd) :
    ∃ c1, step e c outA = .cont c1 (outA.setIfInBounds c.outPos (UInt8.ofNat c.r.counter)) ∧
      c1.r.state = sDecodeLitlen ∧ c1.outPos = c.outPos + 1 ∧ c1.inPos = c.inPos ∧
      c1.r.numBits = c.r.numBits ∧ c1.r.bitBuf = c.r.bitBuf ∧ Inv c c1 := by
  rw [step_WriteSymbol hs]
  unfold stWriteSymbol wrBytesLeft
  have h1 : ¬ (c.r.counter ≥ 256) := by omega
  have h2 : e.outEnd - c.outPos > 0 := by omega
  simp only [h1, h2, ↓reduceIte]
  exact ⟨_, rfl, rfl, rfl, rfl, rfl, rfl, ⟨rfl, rfl, rfl, rfl, rfl, rfl, rfl, rfl, rfl, rfl⟩⟩

theorem micro_writeSymbol_hi (hs : c.r.state = sWriteSymbol) (hc : 256 ≤ c.r.counter) :
    step e c outA = .cont (setState c sHuffDecodeOuterLoop1) outA := by
  rw [step_WriteSymbol hs]
  unfold stWriteSymbol
  simp only [ge_iff_le, hc, ↓reduceIte]

theorem micro_hol1_eob (hs : c.r.state = sHuffDecodeOuterLoop1) (hc : c.r.counter = 256) :
    ∃ c1, step e c outA = .cont c1 outA ∧ c1.r.state = sBlockDone ∧ c1.outPos = c.outPos ∧ c1.inPos = c.inPos ∧
      c1.r.numBits = c.r.numBits ∧ c1.r.bitBuf = c.r.bitBuf ∧ Inv c c1 := by
  rw [step_HuffDecodeOuterLoop1 hs]
  unfold stHuffDecodeOuterLoop1
  simp only [hc]
  exact ⟨_, rfl, rfl, rfl, rfl, rfl, rfl, ⟨rfl, rfl, rfl, rfl, rfl, rfl, rfl, rfl, rfl, rfl⟩⟩

theorem micro_hol1_len {s : Nat} (hs : c.r.state = sHuffDecodeOuterLoop1) (hc : c.r.counter = s)
    (h1 : 256 < s) (h2 : s ≤ 285) :
    ∃ c1, step e c outA = .cont c1 outA ∧
      c1.r.state = (if (lengthBaseExtra s).2 ≠ 0 then sReadExtraBitsLitlen else sDecodeDistance) ∧
      c1.r.counter = (lengthBaseExtra s).1 ∧ c1.r.numExtra = (lengthBaseExtra s).2 ∧
      c1.outPos = c.outPos ∧ c1.inPos = c.inPos ∧ c1.r.numBits = c.r.numBits ∧ c1.r.bitBuf = c.r.bitBuf ∧ Inv c c1 := by
  rw [step_HuffDecodeOuterLoop1 hs]
  unfold stHuffDecodeOuterLoop1
  have hm : s % 512 = s := Nat.mod_eq_of_lt (Nat.lt_of_le_of_lt h2 (by decide))
  dsimp only
  rw [hc, hm, if_neg (Nat.ne_of_gt h1), if_neg (Nat.not_lt.mpr h2)]
  -- keeps the `rfl`s below from evaluating the length formula on a variable
  generalize lengthBaseExtra s = be
  exact ⟨_, rfl, rfl, rfl, rfl, rfl, rfl, rfl, rfl, ⟨rfl, rfl, rfl, rfl, rfl, rfl, rfl, rfl, rfl, rfl⟩⟩

theorem micro_rebl {pos v : Nat} (hs : c.r.state = sReadExtraBitsLitlen) (hr : Rep e.inp c pos)
    (hv : bitsAt e.inp pos c.r.numExtra = some v) :
    ∃ c1, step e c outA = .cont c1 outA ∧ c1.r.state = sDecodeDistance ∧ c1.r.counter = c.r.counter + v ∧
      Rep e.inp c1 (pos + c.r.numExtra) ∧ c1.outPos = c.outPos ∧ Inv c c1 ∧ (c.r.numBits < 8 → c1.r.numBits < 8) := by
  obtain ⟨c1, hrb, hr1, h8, hok, _⟩ := readBits_full hr hv
  rw [step_ReadExtraBitsLitlen hs]
  unfold stReadExtraBitsLitlen
  rw [hrb]
  have i := Inv.of_read hok
  exact ⟨_, rfl, rfl, by show c1.r.counter + v = _; rw [hok.regs], hr1.of_eq rfl rfl rfl, hok.outPos,
    ⟨i.finish, i.z0, i.z1, i.zA, i.chk, i.lit, i.dist, i.rh, i.ts, i.lc⟩, h8⟩

theorem micro_decodeDistance {pos d p : Nat} (hs : c.r.state = sDecodeDistance) (hr : Rep e.inp c pos)
    (hd : decodeSym c.r.distCode e.inp pos = .sym d p) (hle : d ≤ 29) :
    ∃ c1, step e c outA = .cont c1 outA ∧
      c1.r.state = (if (distBaseExtra d).2 ≠ 0 then sReadExtraBitsDistance else sHuffDecodeOuterLoop2) ∧
      c1.r.dist = (distBaseExtra d).1 ∧ c1.r.numExtra = (distBaseExtra d).2 ∧ c1.r.counter = c.r.counter ∧
      Rep e.inp c1 p ∧ c1.outPos = c.outPos ∧ Inv c c1 ∧ (c.r.numBits < 8 → c1.r.numBits < 8) := by
  obtain ⟨c1, hdh, hr1, h8, hok⟩ := decodeHuff_full hr hd
  rw [step_DecodeDistance hs]
  unfold stDecodeDistance
  rw [hdh]
  simp only [Nat.not_lt.mpr hle, ↓reduceIte]
  have i := Inv.of_read hok
  -- keeps the `rfl`s below from evaluating the distance formula on a variable
  generalize distBaseExtra d = be
  exact ⟨_, rfl, rfl, rfl, rfl, by show c1.r.counter = _; rw [hok.regs], hr1.of_eq rfl rfl rfl, hok.outPos,
    ⟨i.finish, i.z0, i.z1, i.zA, i.chk, i.lit, i.dist, i.rh, i.ts, i.lc⟩, h8⟩

theorem micro_rebd {pos v : Nat} (hs : c.r.state = sReadExtraBitsDistance) (hr : Rep e.inp c pos)
    (hv : bitsAt e.inp pos c.r.numExtra = some v) :
    ∃ c1, step e c outA = .cont c1 outA ∧ c1.r.state = sHuffDecodeOuterLoop2 ∧ c1.r.dist = c.r.dist + v ∧
      c1.r.counter = c.r.counter ∧ Rep e.inp c1 (pos + c.r.numExtra) ∧ c1.outPos = c.outPos ∧ Inv c c1 ∧
      (c.r.numBits < 8 → c1.r.numBits < 8) := by
  obtain ⟨c1, hrb, hr1, h8, hok, _⟩ := readBits_full hr hv
  rw [step_ReadExtraBitsDistance hs]
  unfold stReadExtraBitsDistance
  rw [hrb]
  have i := Inv.of_read hok
  exact ⟨_, rfl, rfl, by show c1.r.dist + v = _; rw [hok.regs], by show c1.r.counter = _; rw [hok.regs],
    hr1.of_eq rfl rfl rfl, hok.outPos, ⟨i.finish, i.z0, i.z1, i.zA, i.chk, i.lit, i.dist, i.rh, i.ts, i.lc⟩, h8⟩

theorem not_oob (hd2 : c.r.dist ≤ c.outPos) (hlen : c.outPos ≤ e.outLen) :
    ¬ ((c.r.dist > c.outPos ∧ (!e.ring) = true) ∨ c.r.dist > e.outLen) :=
  fun h => h.elim (fun h => Nat.not_lt.mpr hd2 h.1) (fun h => Nat.not_lt.mpr (Nat.le_trans hd2 hlen) h)

theorem micro_match {full : Array UInt8} (hflat : e.ring = false) (hs : c.r.state = sHuffDecodeOuterLoop2)
    (ho : c.outPos = full.size) (heq : OutEq outA full) (hsz : outA.size = e.outLen)
    (hd1 : 1 ≤ c.r.dist) (hd2 : c.r.dist ≤ full.size) (hroom : full.size + c.r.counter ≤ e.outEnd)
    (hend : e.outEnd ≤ e.outLen) :
    ∃ c1 outA1, step e c outA = .cont c1 outA1 ∧ c1.r.state = sDecodeLitlen ∧
      c1.outPos = full.size + c.r.counter ∧ OutEq outA1 (copyFull full c.r.dist c.r.counter) ∧
      outA1.size = e.outLen ∧ c1.inPos = c.inPos ∧ c1.r.numBits = c.r.numBits ∧ c1.r.bitBuf = c.r.bitBuf ∧
      Inv c c1 := by
  rw [step_Match1 hs]
  unfold stMatch wrBytesLeft
  rw [if_neg (not_oob (ho ▸ hd2) (ho ▸ Nat.le_trans (Nat.le_add_right _ _) (Nat.le_trans hroom hend)))]
  by_cases hc0 : c.r.counter = 0
  · simp only [hc0, ↓reduceIte]
    refine ⟨_, _, rfl, rfl, by simp [ho], ?_, hsz, rfl, rfl, rfl, ⟨rfl, rfl, rfl, rfl, rfl, rfl, rfl, rfl, rfl, rfl⟩⟩
    simpa [copyFull] using heq
  · simp only [hc0, ↓reduceIte]
    have hw : ¬ (e.outEnd - c.outPos = 0) := by
      rw [ho]; exact Nat.sub_ne_zero_of_lt (Nat.lt_of_lt_of_le (Nat.lt_add_of_pos_right (Nat.pos_of_ne_zero hc0)) hroom)
    simp only [hw, ↓reduceIte]
    have hmin : min (e.outEnd - c.outPos) c.r.counter = c.r.counter := by
      rw [ho]; exact Nat.min_eq_right (Nat.le_sub_of_add_le' hroom)
    simp only [hmin, Nat.sub_self, ↓reduceIte, hflat, Bool.false_eq_true]
    refine ⟨_, _, rfl, rfl, by simp [ho], ?_, ?_, rfl, rfl, rfl, ⟨rfl, rfl, rfl, rfl, rfl, rfl, rfl, rfl, rfl, rfl⟩⟩
    · rw [ho]
      exact copyBytes_sim c.r.dist _ hd1 c.r.counter outA full heq hd2 (hsz ▸ Nat.le_trans hroom hend)
    · rw [(copyBytes_sameOutside _ _ _ _ _ _).1]; exact hsz

end Model.Core
