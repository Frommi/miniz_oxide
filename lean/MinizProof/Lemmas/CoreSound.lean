/-
Towards the converse of the refinement: a run that stops for a reason other than starvation stops
the same way over any extension of the input; a proper prefix of a valid stream is never rejected.
For Props/C04.
-/
import MinizProof.Lemmas.CoreSplit
import MinizProof.Lemmas.CoreRefine
namespace Model.Core
open Spec

theorem run_ext_same (e : Env) (b : Array UInt8) : ∀ (f : Nat) (c : Ctx) (out : Array UInt8) (st : Int) (c1 : Ctx)
    (out1 : Array UInt8), Geo e c out → run e f c out = (st, c1, out1) → st ≠ e.eoi → st ≠ stModelError →
    Final (e.ext b) c out (st, c1, out1) :=
  fun f c out _ _ _ g h hne hnm => (run_link (split_link e b) f c out _ g h hnm).2 hne

/-- A PROPER PREFIX OF A VALID STREAM IS NEVER REJECTED. If the reference decoder accepts the raw
    stream `a ++ b` and `a` ends before the stream does, one call of the model on `a` alone (flat
    buffer with room for the whole plaintext, decoder at Start) consumes all of `a` and answers
    needs-more-input (has-more-output if the window happens to be exactly full) when more input was
    announced, cannot-make-progress when it was not — never `Failed`, never `Done`. -/
theorem proper_prefix_not_rejected (r : Regs) (a b out : Array UInt8) (outPos budget flags maxDist : Nat)
    (res : Inflated)
    (hstart : r.state = sStart) (hshape : r.rawHeader.size = 4 ∧ r.tableSizes.size = 3 ∧ r.lenCodes.size = 512)
    (hflat : hasFlag flags fNonWrapping = true) (hz : hasFlag flags fParseZlib = false)
    (hstop : hasFlag flags fStopOnBlockBoundary = false) (hpos : outPos ≤ out.size)
    (hspec : inflateSpec (out.extract 0 outPos) maxDist (a ++ b) 0 = .accept res)
    (hroom : outPos + res.out.size ≤ min (outPos + budget) out.size)
    (hproper : a.size < (res.bitsUsed + 7) / 8) :
    (decompress r a out outPos budget flags).consumed = a.size ∧
    (if hasFlag flags fHasMoreInput then
        (decompress r a out outPos budget flags).status = stNeedsMoreInput ∨
        (decompress r a out outPos budget flags).status = stHasMoreOutput
     else (decompress r a out outPos budget flags).status = stFailedCannotMakeProgress) := by
  have hg := badGeometry_flat (n := out.size) hflat hpos
  -- the whole stream runs to `Done` with the cursor behind `a`
  obtain ⟨cD, oD, reach, hsD, _, hiD, _⟩ := sim_raw (e := callEnv (a ++ b) out outPos budget flags) hstart hshape
    (callEnv_ring hflat) callEnv_outEnd_le hz hstop hpos rfl hspec hroom
  have hrunD := run_of_reaches_fin hg reach (step_DoneForever hsD)
  have g0 : Geo (callEnv a out outPos budget flags) { r := r, inPos := 0, outPos := outPos } out := callGeo hg
  have htot := callRun_fin r a out outPos budget flags hg
  have hle : (callRun r a out outPos budget flags).2.1.inPos ≤ a.size := (run_ok _ _ _ _ g0).1.geo.inLe
  rw [decompress_eq _ _ _ _ _ _ hg]
  generalize hR : callRun r a out outPos budget flags = R at htot hle ⊢
  obtain ⟨st0, c1, o1⟩ := R
  dsimp only at htot hle ⊢
  have hst0 : st0 = (callEnv a out outPos budget flags).eoi := by
    refine Decidable.by_contra fun h => ?_
    have hF := run_ext_same (callEnv a out outPos budget flags) b _ _ _ _ _ _ g0 hR h (finOK_ne_modelError htot)
    have hFD : Final ((callEnv a out outPos budget flags).ext b) { r := r, inPos := 0, outPos := outPos } out
        (stDone, cD, oD) := ⟨_, hrunD, by show stDone ≠ stModelError; decide⟩
    have := Final.unique hF hFD
    simp only [Prod.mk.injEq] at this
    rw [this.2.1, hiD] at hle
    exact absurd hle (Nat.not_le_of_gt hproper)
  -- starved: everything consumed, status by the flag
  have hstarved : st0 = stNeedsMoreInput ∨ st0 = stFailedCannotMakeProgress := hst0 ▸ eoi_cases _
  have hin : c1.inPos = a.size := htot.in_used hstarved
  refine ⟨by rw [epilogue_consumed, exitUndo_starved hstarved, hin]; exact Nat.sub_zero _, ?_⟩
  have hcases := exitStatus_cases st0 c1 (min (outPos + budget) out.size)
  rcases epilogue_status flags outPos (min (outPos + budget) out.size) st0 c1 o1 with h | h
  · by_cases hmi : hasFlag flags fHasMoreInput = true
    · have heoi : st0 = stNeedsMoreInput := hst0.trans (if_pos hmi)
      rw [if_pos hmi]
      exact hcases.elim (fun h2 => .inl (h.trans (h2.trans heoi))) (fun h2 => .inr (h.trans h2.1))
    · have heoi : st0 = stFailedCannotMakeProgress := hst0.trans (if_neg hmi)
      rw [if_neg hmi]
      exact h.trans ((exitStatus_of_ne _ _ _ (by rw [heoi]; decide)).trans heoi)
  · exfalso
    rcases hcases with h2 | h2
    · exact done_ne_eoi _ ((h.2.symm.trans h2).trans hst0)
    · exact absurd (h2.1.symm.trans h.2) (by decide)

theorem callFinal (r : Regs) (inp out : Array UInt8) (outPos budget flags : Nat)
    (hg : badGeometry flags out.size outPos = false) :
    Final (callEnv inp out outPos budget flags) { r := r, inPos := 0, outPos := outPos } out
      (callRun r inp out outPos budget flags) :=
  ⟨_, rfl, callRun_ne r inp out outPos budget flags hg⟩

end Model.Core
