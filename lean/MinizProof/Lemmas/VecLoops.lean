/-
Theorems about the vector-helper loops (`Model.Vec`): the size limit is respected, the buffer never
exceeds the limit, the doubling loop cannot go on for ever, the compress loop never reaches its
panic arm for an inner function that keeps its contract.
-/
import MinizProof.Model.VecLoops
namespace Model.Vec

/-- length of the vector a result carries (successful output, or the partial output of an error) -/
def InflOut.len : InflOut → Nat
  | .ok len _ => len
  | .err _ len _ => len
  | .stuck _ => 0

/-- SIZE LIMIT of `decompress_to_vec*_with_limit`, for every behaviour of the inner decoder: the
    buffer never grows beyond the limit, so neither a successful result nor the partial output
    carried by an error is longer than the limit. -/
theorem inflLoop_len_le (maxOut : Nat) : ∀ (rs : List Resp) (inLeft bufLen outPos : Nat) (calls : List Call),
    bufLen ≤ maxOut → (inflLoop maxOut inLeft bufLen outPos calls rs).len ≤ maxOut := by
  intro rs
  induction rs with
  | nil => intro inLeft bufLen outPos calls h; simp [inflLoop, InflOut.len]
  | cons r rs ih =>
    intro inLeft bufLen outPos calls h
    unfold inflLoop
    simp only
    by_cases h1 : r.st = tDone
    · simp only [h1, ↓reduceIte, InflOut.len]
      exact Nat.le_trans (Nat.min_le_right _ _) h
    · simp only [h1, ↓reduceIte]
      by_cases h2 : r.st = tHasMoreOutput
      · simp only [h2, ↓reduceIte]
        by_cases h3 : r.cin > inLeft
        · simp only [h3, ↓reduceIte, InflOut.len]; exact h
        · simp only [h3, ↓reduceIte]
          by_cases h4 : bufLen ≥ maxOut
          · simp only [h4, ↓reduceIte, InflOut.len]; exact h
          · simp only [h4, ↓reduceIte]
            exact ih _ _ _ _ (Nat.min_le_right _ _)
      · simp only [h2, ↓reduceIte, InflOut.len]; exact h

theorem decompressToVec_len_le (inLen maxOut : Nat) (script : List Resp) :
    (decompressToVec inLen maxOut script).len ≤ maxOut :=
  inflLoop_len_le maxOut script inLen _ 0 [] (Nat.min_le_right _ _)

/-- The doubling loop terminates on its own: with a non-empty buffer, after at most `maxOut - bufLen + 1`
    `HasMoreOutput` answers it has returned (the script is never exhausted before that). -/
theorem inflLoop_terminates (maxOut : Nat) : ∀ (n : Nat) (rs : List Resp) (inLeft bufLen outPos : Nat) (calls : List Call),
    0 < bufLen → maxOut - bufLen < n → n ≤ rs.length →
    ∀ cs, inflLoop maxOut inLeft bufLen outPos calls rs ≠ .stuck cs := by
  intro n
  induction n with
  | zero => intro rs inLeft bufLen outPos calls _ h; omega
  | succ n ih =>
    intro rs inLeft bufLen outPos calls hpos hlt hlen cs
    cases rs with
    | nil => simp at hlen
    | cons r rs =>
      unfold inflLoop
      simp only
      by_cases h1 : r.st = tDone
      · simp [h1]
      · simp only [h1, ↓reduceIte]
        by_cases h2 : r.st = tHasMoreOutput
        · simp only [h2, ↓reduceIte]
          by_cases h3 : r.cin > inLeft
          · simp [h3]
          · simp only [h3, ↓reduceIte]
            by_cases h4 : bufLen ≥ maxOut
            · simp [h4]
            · simp only [h4, ↓reduceIte]
              exact ih rs _ _ _ _ (by omega) (by
                have : bufLen < maxOut := by omega
                have : bufLen < min (bufLen * 2) maxOut := by omega
                omega) (by simp at hlen; omega) cs
        · simp [h2]

/-- The contract of the inner `compress` along one run of the loop: status `Okay` or `Done`, and
    never more input reported consumed than is left. -/
def Respects : Nat → List Resp → Prop
  | _, [] => True
  | inLeft, r :: rs => (r.st = dOkay ∨ r.st = dDone) ∧ r.cin ≤ inLeft ∧ Respects (inLeft - r.cin) rs

/-- An inner `compress` that keeps its contract never drives `compress_to_vec` into its
    `panic!("Bug! …")` arm, whatever the sizes and however often the buffer has to grow. -/
theorem deflLoop_never_panics : ∀ (rs : List Resp) (inLeft bufLen outPos : Nat) (calls : List Call),
    Respects inLeft rs → ∀ cs, deflLoop inLeft bufLen outPos calls rs ≠ .panic cs := by
  intro rs
  induction rs with
  | nil => intro inLeft bufLen outPos calls _ cs; simp [deflLoop]
  | cons r rs ih =>
    intro inLeft bufLen outPos calls hst cs
    obtain ⟨h1, h2, h3⟩ := hst
    unfold deflLoop
    simp only
    by_cases hd : r.st = dDone
    · simp [hd]
    · have ho : r.st = dOkay := by rcases h1 with h | h; exact h; exact absurd h hd
      simp only [↓reduceIte, ho, h2, and_self]
      exact ih _ _ _ _ h3 cs

theorem compressToVec_never_panics (inLen : Nat) (script : List Resp) (h : Respects inLen script) :
    ∀ cs, compressToVec inLen script ≠ .panic cs :=
  deflLoop_never_panics script inLen _ 0 [] h

end Model.Vec
