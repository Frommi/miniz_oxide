/-
Encoder specification, blocks: what a block encoder must achieve (`EncBlock.Decodes`), static-Huffman
blocks, sequences of blocks ending in a final one — and the proof that `Spec.inflateSpec` decodes what
they write to exactly the LZ77 expansion of their tokens. Helper lemmas for Props/C10.
-/
import MinizProof.Lemmas.EncTokens
import MinizProof.Lemmas.FixedCodes
namespace Model.Core
open Spec

theorem HasBits.le_size {data : Array UInt8} {pos : Nat} {bs : List Nat} (h : HasBits data pos bs) (hne : bs ≠ []) :
    pos + bs.length ≤ 8 * data.size := by
  have hl : 0 < bs.length := List.length_pos_iff.mpr hne
  have := h (bs.length - 1) (by omega)
  unfold bitAt at this
  cases hd : data[(pos + (bs.length - 1)) / 8]? with
  | none => rw [hd] at this; exact absurd this (by simp)
  | some b =>
    have hlt : (pos + (bs.length - 1)) / 8 < data.size := by
      have := Array.getElem?_eq_some_iff.mp hd
      exact this.1
    omega

theorem codeValid_ok {k : CodeKind} {lens : Array Nat} (h : codeValid k lens = true) : CodeOk lens := by
  unfold codeValid at h
  simp only [Bool.and_eq_true] at h
  obtain ⟨h15, hk⟩ := h
  refine ⟨fun s => ?_, ?_⟩
  · by_cases hs : s < lens.size
    · have := Array.all_eq_true.mp h15 s hs
      simp only [decide_eq_true_eq] at this
      simp [Array.getD_eq_getD_getElem?, hs, this]
    · simp [Array.getD_eq_getD_getElem?, Nat.not_lt.mp hs]
  · cases hkl : kraftLeft (countLens lens) with
    | none => rw [hkl] at hk; exact absurd hk (by simp)
    | some r => exact ⟨r, rfl⟩

theorem fixedLit_ok : CodeOk fixedLitLens := codeValid_ok fixed_lit_valid
theorem fixedDist_ok : CodeOk fixedDistLens := codeValid_ok fixed_dist_valid
theorem fixedLit_eob : 256 < fixedLitLens.size ∧ 1 ≤ fixedLitLens.getD 256 0 := by simp [fixedLitLens]

/-- what a block encoder must achieve: from any position and any output so far at which its tokens
    are well-formed, the reference decoder reads the block's bits back as the expansion of its tokens -/
structure EncBlock where
  /-- the block's bits when it starts at bit position `pos` (only stored blocks depend on it: padding) -/
  bits  : Nat → List Nat
  final : Bool
  toks  : List SymTok
  litLens : Array Nat
  distLens : Array Nat

def EncBlock.Decodes (pre : Array UInt8) (maxDist : Nat) (b : EncBlock) : Prop :=
  ∀ (data : Array UInt8) (fuel pos : Nat) (out : Array UInt8), 8 * data.size < fuel + pos →
    ToksOk b.litLens b.distLens pre maxDist out b.toks → HasBits data pos (b.bits pos) →
    ∃ info, inflateBlock pre maxDist data fuel pos out = .accept (pos + (b.bits pos).length, expandToks pre out b.toks, info) ∧
      info.final = b.final

def encStatic (final : Bool) (toks : List SymTok) : EncBlock :=
  { bits := fun _ => bitsLE ((if final then 1 else 0) + 2) 3 ++ encToks fixedLitLens fixedDistLens toks,
    final := final, toks := toks, litLens := fixedLitLens, distLens := fixedDistLens }

theorem encTok_length_pos {litLens distLens : Array Nat} {t : SymTok} (h : t.Ok litLens distLens) :
    1 ≤ (encTok litLens distLens t).length := by
  cases t with
  | lit b => rw [encTok, codeBits_length]; exact h.2.2
  | copy ls lx ds dx => simp only [encTok, List.length_append, codeBits_length]; have := h.2.2.2.1; omega

/-- every token and the end-of-block code take at least one bit: a token sequence the stream holds
    from `pos` is shorter than the bits left (which bounds the decoder's fuel) -/
theorem toks_fit {litLens distLens : Array Nat} (h256 : 1 ≤ litLens.getD 256 0) {pre : Array UInt8} {maxDist : Nat}
    {data : Array UInt8} : ∀ (ts : List SymTok) (pos : Nat) (out : Array UInt8), ToksOk litLens distLens pre maxDist out ts →
    HasBits data pos (encToks litLens distLens ts) → pos + ts.length < 8 * data.size := by
  intro ts
  induction ts with
  | nil =>
    intro pos out _ h
    have := HasBits.le_size (bs := codeBits litLens 256) h (List.ne_nil_of_length_pos (by rw [codeBits_length]; exact h256))
    rw [codeBits_length] at this
    exact Nat.lt_of_lt_of_le (Nat.add_lt_add_left h256 pos) this
  | cons t ts ih =>
    intro pos out hok h
    obtain ⟨_, hr⟩ := HasBits.append (a := encTok litLens distLens t) (b := encToks litLens distLens ts) h
    have ht : 1 ≤ (encTok litLens distLens t).length ∧ ∃ out', ToksOk litLens distLens pre maxDist out' ts := by
      cases t with
      | lit b => exact ⟨encTok_length_pos hok.1, _, hok.2⟩
      | copy ls lx ds dx => exact ⟨encTok_length_pos hok.1, _, hok.2.2.2⟩
    obtain ⟨h1, out', hok'⟩ := ht
    have := ih _ out' hok' hr
    rw [List.length_cons]
    omega

theorem encStatic_decodes (pre : Array UInt8) (maxDist : Nat) (final : Bool) (toks : List SymTok) :
    (encStatic final toks).Decodes pre maxDist := by
  intro data fuel pos out hfuel hok h
  dsimp only [encStatic] at hok
  obtain ⟨hh, ht⟩ := HasBits.append (a := bitsLE ((if final then 1 else 0) + 2) 3) h
  rw [bitsLE_length] at ht
  have hhdr := bitsAt_of_hasBits data 3 pos ((if final then 1 else 0) + 2) (by cases final <;> decide) hh
  have hfit := toks_fit fixedLit_eob.2 toks _ out hok ht
  have hdec := decodeTokens_enc fixedLitLens fixedDistLens fixedLit_ok fixedDist_ok fixedLit_eob pre maxDist data toks fuel
    (pos + 3) out #[] (by omega) hok ht
  unfold inflateBlock
  rw [hhdr]
  have hbt : ((if final then 1 else 0) + 2) / 2 = 1 := by cases final <;> rfl
  simp only [hbt, ↓reduceIte, Nat.succ_ne_self]
  unfold fixedLitCode fixedDistCode
  rw [hdec]
  dsimp only
  have e : pos + 3 + (encToks fixedLitLens fixedDistLens toks).length = pos + ((encStatic final toks).bits pos).length := by
    simp only [encStatic, List.length_append, bitsLE_length]; omega
  rw [e]
  exact ⟨_, rfl, by cases final <;> simp [encStatic]⟩

def expandBlocks (pre : Array UInt8) : Array UInt8 → List EncBlock → Array UInt8
  | out, [] => out
  | out, b :: bs => expandBlocks pre (expandToks pre out b.toks) bs

def blocksBits : Nat → List EncBlock → List Nat
  | _, [] => []
  | pos, b :: bs => b.bits pos ++ blocksBits (pos + (b.bits pos).length) bs

/-- a well-formed stream: every block decodes, has at least one bit, its tokens are well-formed where
    it stands, and exactly the last block is marked final -/
def BlocksOk (pre : Array UInt8) (maxDist : Nat) : Array UInt8 → List EncBlock → Prop
  | _, [] => False
  | out, [b] => b.final = true ∧ (∀ p, b.bits p ≠ []) ∧ b.Decodes pre maxDist ∧ ToksOk b.litLens b.distLens pre maxDist out b.toks
  | out, b :: b' :: rest => b.final = false ∧ (∀ p, b.bits p ≠ []) ∧ b.Decodes pre maxDist ∧
      ToksOk b.litLens b.distLens pre maxDist out b.toks ∧ BlocksOk pre maxDist (expandToks pre out b.toks) (b' :: rest)

theorem BlocksOk.cons {pre : Array UInt8} {maxDist : Nat} {out : Array UInt8} {b : EncBlock} {rest : List EncBlock}
    (h : BlocksOk pre maxDist out (b :: rest)) :
    b.final = rest.isEmpty ∧ (∀ p, b.bits p ≠ []) ∧ b.Decodes pre maxDist ∧ ToksOk b.litLens b.distLens pre maxDist out b.toks ∧
      (rest ≠ [] → BlocksOk pre maxDist (expandToks pre out b.toks) rest) := by
  cases rest with
  | nil => exact ⟨h.1, h.2.1, h.2.2.1, h.2.2.2, fun hne => absurd rfl hne⟩
  | cons b' rest' => exact ⟨h.1, h.2.1, h.2.2.1, h.2.2.2.1, fun _ => h.2.2.2.2⟩

theorem inflateBlocks_enc (pre : Array UInt8) (maxDist : Nat) (data : Array UInt8) :
    ∀ (bs : List EncBlock) (fuel pos : Nat) (out : Array UInt8) (acc : Array BlockInfo), 8 * data.size + 1 < fuel + pos →
    BlocksOk pre maxDist out bs → HasBits data pos (blocksBits pos bs) →
    ∃ infos, inflateBlocks pre maxDist data fuel pos out acc =
      .accept (pos + (blocksBits pos bs).length, expandBlocks pre out bs, infos) := by
  intro bs
  induction bs with
  | nil => intro fuel pos out acc _ h; exact absurd h id
  | cons b rest ih =>
    intro fuel pos out acc hfuel hok h
    obtain ⟨hb, hr⟩ := HasBits.append (a := b.bits pos) (b := blocksBits (pos + (b.bits pos).length) rest) h
    obtain ⟨hfin, hne, hdec, htok, hrest⟩ := hok.cons
    have hsz := hb.le_size (hne pos)
    have hl : 0 < (b.bits pos).length := List.length_pos_iff.mpr (hne pos)
    obtain ⟨f, rfl⟩ : ∃ f, fuel = f + 1 := ⟨fuel - 1, by omega⟩
    obtain ⟨info, hi, hif⟩ := hdec data f pos out (by omega) htok hb
    unfold inflateBlocks
    rw [hi]
    dsimp only
    rw [hif, hfin]
    show ∃ infos, _ = Verdict.accept (pos + (b.bits pos ++ blocksBits (pos + (b.bits pos).length) rest).length, _, infos)
    rw [List.length_append, ← Nat.add_assoc]
    cases rest with
    | nil => exact ⟨_, rfl⟩
    | cons b' rest' =>
      obtain ⟨infos, hrec⟩ := ih f _ _ _ (by omega) (hrest (List.cons_ne_nil _ _)) hr
      exact ⟨infos, hrec⟩

/-- THE ENCODER SPECIFICATION IS INVERTED BY THE REFERENCE DECODER: a byte string holding, from bit
    `start`, the bits of a well-formed sequence of blocks is accepted by `Spec.inflateSpec` with
    exactly the LZ77 expansion of the blocks' tokens as plaintext and exactly their bits consumed —
    whatever follows. -/
theorem inflateSpec_enc_at (maxDist : Nat) (data : Array UInt8) (start : Nat) (bs : List EncBlock)
    (hok : BlocksOk #[] maxDist #[] bs) (h : HasBits data start (blocksBits start bs)) :
    ∃ res, inflateSpec #[] maxDist data start = .accept res ∧ res.out = expandBlocks #[] #[] bs ∧
      res.bitsUsed = start + (blocksBits start bs).length := by
  obtain ⟨infos, hi⟩ := inflateBlocks_enc #[] maxDist data bs (fuelFor data) start #[] #[] (by unfold fuelFor; omega) hok h
  unfold inflateSpec
  rw [hi]
  exact ⟨_, rfl, rfl, rfl⟩

theorem inflateSpec_enc (maxDist : Nat) (data : Array UInt8) (bs : List EncBlock)
    (hok : BlocksOk #[] maxDist #[] bs) (h : HasBits data 0 (blocksBits 0 bs)) :
    ∃ res, inflateSpec #[] maxDist data 0 = .accept res ∧ res.out = expandBlocks #[] #[] bs ∧
      res.bitsUsed = (blocksBits 0 bs).length := by
  simpa using inflateSpec_enc_at maxDist data 0 bs hok h

end Model.Core
