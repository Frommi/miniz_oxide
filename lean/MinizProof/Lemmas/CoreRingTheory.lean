/-
`RingTheory`: what the streaming wrapper needs to know about its inner calls (`Lemmas/InflBytes`) —
on any part of a valid stream, in any chunks, over any number of laps of the window, the ring
driver's next call ends in one of four statuses; if `Done`, it has delivered the plaintext; while
suspended, a prefix of it. Derived for any stream format from its flat theory (`ringTheory_of_flat`,
on `Lemmas/CoreRingValid` and `Lemmas/CorePrefix`); the flat theories of raw and zlib streams with
the DEFLATE window are here too. The wrapper's two flag words get their ring theories in Props/C13.
-/
import MinizProof.Lemmas.CorePrefix
import MinizProof.Props.C03
import MinizProof.Model.InflBytes
namespace Model.Core
open Spec

/-- WHAT THE WRAPPER NEEDS TO KNOW ABOUT THE RING DRIVER under its flag word `flags`, for streams `z`
    satisfying `V z` ("`z` — everything supplied so far followed by what is still to come — is a
    valid stream with plaintext `P`"): while its calls are suspended the next call ends in one of
    four statuses; if that is `Done`, what has been delivered is `P`; while all calls are suspended
    what has been delivered is a prefix of `P`; the flag word announces more input. Derived from a flat theory
    (`ringTheory_of_flat`); instances: raw streams (`C13.raw_wrapper_flags`), zlib streams
    (`C13.zlib_wrapper_flags`). -/
structure RingTheory (flags : Nat) (V : Array UInt8 → Prop) (P : Array UInt8) (L : Nat) : Prop where
  status : ∀ (c : Array UInt8) (cs : List (Array UInt8)) (b : Array UInt8), V (catList (c :: cs) ++ b) →
    (∀ x ∈ (runRing flags Model.InflB.dictSize {} (Array.replicate Model.InflB.dictSize 0) 0 #[] (c :: cs)).dropLast, suspended x.1) →
    ∀ lastR, (runRing flags Model.InflB.dictSize {} (Array.replicate Model.InflB.dictSize 0) 0 #[] (c :: cs)).getLast? = some lastR →
    lastR.1.status = stDone ∨ lastR.1.status = stHasMoreOutput ∨ lastR.1.status = stNeedsMoreInput ∨
    lastR.1.status = stFailedCannotMakeProgress
  done : ∀ (c : Array UInt8) (cs : List (Array UInt8)) (b : Array UInt8), V (catList (c :: cs) ++ b) →
    (∀ x ∈ (runRing flags Model.InflB.dictSize {} (Array.replicate Model.InflB.dictSize 0) 0 #[] (c :: cs)).dropLast, suspended x.1) →
    ∀ lastR, (runRing flags Model.InflB.dictSize {} (Array.replicate Model.InflB.dictSize 0) 0 #[] (c :: cs)).getLast? = some lastR →
    lastR.1.status = stDone →
    deliveredRing (runRing flags Model.InflB.dictSize {} (Array.replicate Model.InflB.dictSize 0) 0 #[] (c :: cs)) = P ∧
    ((runRing flags Model.InflB.dictSize {} (Array.replicate Model.InflB.dictSize 0) 0 #[] (c :: cs)).map (·.1.consumed)).sum = L
  pref : ∀ (c : Array UInt8) (cs : List (Array UInt8)) (b : Array UInt8), V (catList (c :: cs) ++ b) →
    (∀ x ∈ runRing flags Model.InflB.dictSize {} (Array.replicate Model.InflB.dictSize 0) 0 #[] (c :: cs), suspended x.1) →
    ∃ n, n ≤ P.size ∧
      deliveredRing (runRing flags Model.InflB.dictSize {} (Array.replicate Model.InflB.dictSize 0) 0 #[] (c :: cs)) = P.extract 0 n
  more : hasFlag flags fHasMoreInput = true


open Model.InflB in
theorem ringTheory_of_flat {flagsR flagsF : Nat} {V : Array UInt8 → Prop} {P : Array UInt8} {L : Nat} (T : FlatTheory flagsF V P L)
    (hfl : FlagsRF flagsR flagsF) (hg : badGeometry flagsR dictSize 0 = false)
    (hmore : hasFlag flagsR fHasMoreInput = true) : RingTheory flagsR V P L where
  status c cs b hv hsus lastR hlast :=
    ring_status_of_flat T hfl (by decide) (Array.replicate dictSize 0) (by simp) hg c cs b hv hsus lastR hlast
  done c cs b hv hsus lastR hlast hd :=
    have h := ring_done_of_flat T hfl (by decide) (Array.replicate dictSize 0) (by simp) hg c cs b hv hsus lastR hlast hd
    ⟨h.1, h.2.2⟩
  pref c cs b hv hsus :=
    ring_prefix_of_flat T hfl (by decide) (Array.replicate dictSize 0) (by simp) hg c cs b hv hsus
  more := hmore

/-- the flat theory of RAW streams with the DEFLATE window -/
theorem rawFlatTheory (fl : Nat) (hflat : hasFlag fl fNonWrapping = true) (hz : hasFlag fl fParseZlib = false)
    (hstop : hasFlag fl fStopOnBlockBoundary = false) (res : Inflated) :
    FlatTheory fl (fun z => inflateSpec #[] 32768 z 0 = .accept res) res.out ((res.bitsUsed + 7) / 8) :=
  rawFlatTheoryOf fl hflat hz hstop 32768 res

/-- the flat theory of ZLIB streams: `V z` = the reference decoder accepts `z` (header, body, trailer
    equal to the Adler-32 of the body's plaintext) with result `zr` -/
theorem zlibFlatTheory (fl : Nat) (hflat : hasFlag fl fNonWrapping = true) (hz : hasFlag fl fParseZlib = true)
    (hstop : hasFlag fl fStopOnBlockBoundary = false) (zr : ZInflated) :
    FlatTheory fl (fun z => zlibSpec #[] 32768 z true = .accept zr) zr.inner.out zr.bytesUsed where
  flat := hflat
  fits := by
    intro z out budget hv hfit
    have h := C03.valid_zlib_stream_decodes_one_shot {} z out 0 budget fl 32768 zr rfl fresh_shape hflat hz hstop (Nat.zero_le _)
      (by simpa using hv) (by simpa using hfit)
    exact ⟨h.1, h.2.1, fun i hi => by have := h.2.2.2 i hi; rwa [Nat.zero_add] at this, h.2.2.1⟩
  full := by
    intro z out budget hv hbig
    have hv' : zlibSpec (out.extract 0 0) 32768 z true = .accept zr := by simpa using hv
    obtain ⟨cmf, flg, a, b, c, d, h0, h1, hvd, hi, _⟩ := zlibSpec_inv hv'
    exact full_zlib_flat {} z out 0 budget fl 32768 zr.inner cmf flg rfl fresh_shape hflat hz hstop (Nat.zero_le _) h0 h1 hvd hi
      (by simpa using hbig)

end Model.Core
