/-
Encoder specification, zlib framing (RFC 1950): CMF, FLG, the DEFLATE blocks from bit 16, zero padding
to the byte boundary, the Adler-32 of the plaintext most significant byte first. The reference zlib
decoder reads it back: accepted, plaintext = the blocks' expansion, bytes used = header + body +
trailer. Helper lemmas for Props/C09 / C10.
-/
import MinizProof.Lemmas.EncStored
import MinizProof.Lemmas.Checksum
namespace Model.Core
open Spec

/-- bits of a zlib stream around a DEFLATE body given as blocks: header bytes, body from bit 16, zero
    padding to the byte boundary, the four trailer bytes (Adler-32 of the plaintext, big-endian) -/
def zlibBits (cmf flg : Nat) (bs : List EncBlock) : List Nat :=
  let body := blocksBits 16 bs
  let adler := adler32 1 (expandBlocks #[] #[] bs).toList
  bitsLE cmf 8 ++ (bitsLE flg 8 ++ (body ++ (List.replicate ((8 - (16 + body.length) % 8) % 8) 0 ++
    (bitsLE (adler / 16777216 % 256) 8 ++ (bitsLE (adler / 65536 % 256) 8 ++ (bitsLE (adler / 256 % 256) 8 ++ bitsLE (adler % 256) 8))))))

theorem ofNat_toNat_lt {v : Nat} (h : v < 256) : (UInt8.ofNat v).toNat = v := by
  simp [Nat.mod_eq_of_lt h]

/-- THE ZLIB FRAMING IS READ BACK: a byte string holding `zlibBits cmf flg bs` for a valid header pair
    and a well-formed block sequence is accepted by `Spec.zlibSpec` (checksum verified), its plaintext
    is the expansion of the blocks, and exactly header + body + trailer bytes are used. -/
theorem zlibSpec_enc (cmf flg : Nat) (hc : cmf < 256) (hf : flg < 256) (hv : zlibHeaderValid cmf flg = true)
    (maxDist : Nat) (data : Array UInt8) (bs : List EncBlock) (hok : BlocksOk #[] maxDist #[] bs)
    (h : HasBits data 0 (zlibBits cmf flg bs)) :
    ∃ zr, zlibSpec #[] maxDist data true = .accept zr ∧ zr.inner.out = expandBlocks #[] #[] bs ∧
      zr.bytesUsed = (16 + (blocksBits 16 bs).length + 7) / 8 + 4 := by
  unfold zlibBits at h
  dsimp only at h
  obtain ⟨h0, h⟩ := HasBits.append (a := bitsLE cmf 8) h
  obtain ⟨h1, h⟩ := h.append
  obtain ⟨hbody, h⟩ := h.append
  obtain ⟨_, h⟩ := h.append
  obtain ⟨ta, h⟩ := h.append
  obtain ⟨tb, h⟩ := h.append
  obtain ⟨tc, td⟩ := h.append
  simp only [bitsLE_length, List.length_replicate, Nat.zero_add] at h1 hbody ta tb tc td
  generalize hL : (blocksBits 16 bs).length = L at ta tb tc td
  generalize hA : adler32 1 (expandBlocks #[] #[] bs).toList = A at ta tb tc td
  have hAlt : A < 4294967296 := by rw [← hA]; exact Spec.adler32_lt _ _
  have d0 := byte_of_hasBits data 0 cmf hc (by simpa using h0)
  have d1 := byte_of_hasBits data 1 flg hf (by simpa using h1)
  obtain ⟨res, hacc, hout, hbits⟩ := inflateSpec_enc_at maxDist data 16 bs hok (by simpa using hbody)
  rw [hL] at hbits
  have he : 8 + 8 + L + (8 - (16 + L) % 8) % 8 = 8 * ((16 + L + 7) / 8) := by omega
  rw [he] at ta tb tc td
  rw [show 8 * ((16 + L + 7) / 8) + 8 = 8 * ((16 + L + 7) / 8 + 1) by omega] at tb tc td
  rw [show 8 * ((16 + L + 7) / 8 + 1) + 8 = 8 * ((16 + L + 7) / 8 + 2) by omega] at tc td
  rw [show 8 * ((16 + L + 7) / 8 + 2) + 8 = 8 * ((16 + L + 7) / 8 + 3) by omega] at td
  have h256 : ∀ v, v % 256 < 256 := fun v => Nat.mod_lt v (by decide)
  unfold zlibSpec
  rw [d0, d1]
  dsimp only
  rw [ofNat_toNat_lt hc, ofNat_toNat_lt hf, hv]
  simp only [Bool.not_true, Bool.false_eq_true, ↓reduceIte]
  rw [hacc]
  dsimp only
  rw [hbits, byte_of_hasBits data _ _ (h256 _) ta, byte_of_hasBits data _ _ (h256 _) tb, byte_of_hasBits data _ _ (h256 _) tc,
    byte_of_hasBits data _ _ (h256 _) td]
  dsimp only
  simp only [ofNat_toNat_lt (h256 _), hout, hA]
  -- the four trailer bytes, most significant first, are the checksum
  rw [show ((A / 16777216 % 256 * 256 + A / 65536 % 256) * 256 + A / 256 % 256) * 256 + A % 256 = A by omega]
  simp only [Bool.true_and, ne_eq, not_true_eq_false, decide_false, Bool.false_eq_true, ↓reduceIte]
  exact ⟨_, rfl, hout, rfl⟩

end Model.Core
