/-
Encoder specification, stored blocks: 3 header bits, zero padding to the next byte boundary (so the
block's bits depend on where it starts), LEN, its complement, the bytes. The reference decoder reads
the block back to exactly those bytes. Helper lemmas for Props/C10.
-/
import MinizProof.Lemmas.EncBlocks
import MinizProof.Lemmas.CoreBlocks
namespace Model.Core
open Spec

def byteBits : List Nat → List Nat
  | [] => []
  | b :: bs => bitsLE b 8 ++ byteBits bs

theorem byteBits_length : ∀ bs : List Nat, (byteBits bs).length = 8 * bs.length := by
  intro bs
  induction bs with
  | nil => rfl
  | cons b bs ih => simp [byteBits, bitsLE_length, ih]; omega

theorem byte_of_hasBits (data : Array UInt8) (k v : Nat) (hv : v < 256) (h : HasBits data (8 * k) (bitsLE v 8)) :
    data[k]? = some (UInt8.ofNat v) := by
  have hb := bitsAt_of_hasBits data 8 (8 * k) v (by omega) h
  have h0 := h 0 (by simp [bitsLE])
  unfold bitAt at h0
  have e : (8 * k + 0) / 8 = k := by omega
  rw [e] at h0
  cases hd : data[k]? with
  | none => rw [hd] at h0; exact absurd h0 (by simp)
  | some b =>
    have := bitsAt_byte8 hd
    rw [hb] at this
    have hvb : v = b.toNat := Option.some.inj this
    rw [hvb]
    simp

theorem copyStored_enc (data : Array UInt8) : ∀ (bytes : List Nat) (k : Nat) (out : Array UInt8),
    (∀ b ∈ bytes, b < 256) → HasBits data (8 * k) (byteBits bytes) →
    copyStored data k out bytes.length = some (out ++ (bytes.map Nat.toUInt8).toArray) := by
  intro bytes
  induction bytes with
  | nil => intro k out _ _; simp [copyStored]
  | cons b bs ih =>
    intro k out hb h
    obtain ⟨h1, h2⟩ := HasBits.append (a := bitsLE b 8) (b := byteBits bs) h
    rw [bitsLE_length] at h2
    show copyStored data k out (bs.length + 1) = _
    unfold copyStored
    rw [byte_of_hasBits data k b (hb b (by simp)) h1]
    dsimp only
    rw [show 8 * k + 8 = 8 * (k + 1) by omega] at h2
    rw [ih (k + 1) _ (fun x hx => hb x (by simp [hx])) h2]
    simp [Nat.toUInt8]

theorem expandToks_lits (pre : Array UInt8) : ∀ (bytes : List Nat) (out : Array UInt8),
    expandToks pre out (bytes.map SymTok.lit) = out ++ (bytes.map Nat.toUInt8).toArray := by
  intro bytes
  induction bytes with
  | nil => intro out; simp [expandToks]
  | cons b bs ih =>
    intro out
    show expandToks pre (out.push b.toUInt8) (bs.map SymTok.lit) = _
    rw [ih]
    simp

def padLen (pos : Nat) : Nat := (8 - (pos + 3) % 8) % 8

def encStored (final : Bool) (bytes : List Nat) : EncBlock :=
  { bits := fun pos => bitsLE (if final then 1 else 0) 3 ++ (List.replicate (padLen pos) 0 ++
      (bitsLE bytes.length 16 ++ (bitsLE (65535 - bytes.length) 16 ++ byteBits bytes))),
    final := final, toks := bytes.map SymTok.lit, litLens := Array.replicate 256 1, distLens := #[] }

theorem encStored_decodes (pre : Array UInt8) (maxDist : Nat) (final : Bool) (bytes : List Nat)
    (hlen : bytes.length ≤ 65535) (hb : ∀ b ∈ bytes, b < 256) :
    (encStored final bytes).Decodes pre maxDist := by
  intro data fuel pos out _ _ h
  obtain ⟨b0, h⟩ := HasBits.append (a := bitsLE (if final then 1 else 0) 3) h
  obtain ⟨_, h⟩ := h.append
  obtain ⟨b2, h⟩ := h.append
  obtain ⟨b3, b4⟩ := h.append
  simp only [bitsLE_length, List.length_replicate] at b2 b3 b4
  have hhdr := bitsAt_of_hasBits data 3 pos (if final then 1 else 0) (by cases final <;> decide) b0
  have hbp : pos + 3 + padLen pos = 8 * ((pos + 3 + 7) / 8) := by unfold padLen; omega
  rw [hbp] at b2 b3 b4
  have hl := bitsAt_of_hasBits data 16 _ bytes.length (by omega) b2
  have hn := bitsAt_of_hasBits data 16 _ (65535 - bytes.length) (by omega) b3
  have e4 : 8 * ((pos + 3 + 7) / 8) + 16 + 16 = 8 * ((pos + 3 + 7) / 8 + 4) := by omega
  rw [e4] at b4
  have hcp := copyStored_enc data bytes ((pos + 3 + 7) / 8 + 4) out hb b4
  unfold inflateBlock
  rw [hhdr]
  have hbt : (if final then 1 else 0) / 2 = 0 := by cases final <;> rfl
  simp only [hbt, ↓reduceIte]
  rw [hl, hn]
  dsimp only
  rw [if_neg (by omega), hcp]
  dsimp only
  have e : 8 * ((pos + 3 + 7) / 8 + 4 + bytes.length) = pos + ((encStored final bytes).bits pos).length := by
    simp only [encStored, List.length_append, bitsLE_length, List.length_replicate, byteBits_length]; omega
  rw [e, ← expandToks_lits pre bytes out]
  refine ⟨_, rfl, ?_⟩
  cases final <;> rfl

end Model.Core
