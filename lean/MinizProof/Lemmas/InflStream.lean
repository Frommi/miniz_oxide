/-
`inflate()` at the level of counts and statuses (`Model.Infl`) for every script of decoder answers.
Used by Props/C13; `Model.InflB` (`Lemmas/InflBytes`) reuses `window_advance` and `Option.elim_ite`.
-/
import MinizProof.Model.InflStream

theorem Option.elim_ite {α β : Type} (c : Prop) [Decidable c] (a b : Option α) (g : β) (f : α → β) :
    (if c then a else b).elim g f = if c then a.elim g f else b.elim g f :=
  apply_ite (·.elim g f) c a b

namespace Model.Infl

/-- Delivering `n ≤ avail` pending bytes keeps offset and pending count inside the window. -/
theorem window_advance {ofs avail n : Nat} (h : ofs + avail ≤ 32768) (hn : n ≤ avail) :
    (ofs + n) % 32768 < 32768 ∧ (ofs + n) % 32768 + (avail - n) ≤ 32768 := by omega

theorem pushDictOut_spec (s : St) (outLeft : Nat) (h : s.dictOfs + s.dictAvail ≤ dictSize) :
    let p := pushDictOut s outLeft
    p.1 ≤ outLeft ∧ p.1 ≤ s.dictAvail ∧ p.2.dictAvail = s.dictAvail - p.1 ∧
    p.2.dictOfs < dictSize ∧ p.2.dictOfs + p.2.dictAvail ≤ dictSize ∧
    p.2.lastStatus = s.lastStatus ∧ p.2.fmt = s.fmt ∧ p.2.hasFlushed = s.hasFlushed ∧ p.2.firstCall = s.firstCall ∧
    (p.2.dictAvail ≠ 0 → p.1 = outLeft) := by
  have ⟨h1, h2⟩ := window_advance h (Nat.min_le_left s.dictAvail outLeft)
  exact ⟨Nat.min_le_right _ _, Nat.min_le_left _ _, rfl, h1, h2, rfl, rfl, rfl, rfl,
    fun hne => by show min s.dictAvail outLeft = outLeft; have : s.dictAvail - min s.dictAvail outLeft ≠ 0 := hne; omega⟩

/-- The result code with which a round of `inflate_loop` returns after the decoder answered `st`,
    `avail` bytes stay pending and `inLeft`, `outLeft` remain; `none` when it goes round again. -/
def loopExit (flush origIn : Nat) (st : Int) (avail inLeft outLeft : Nat) : Option Int :=
  if st = tFailedCannotMakeProgress then some rBuf
  else if st < 0 then some rData
  else if st = tNeedsMoreInput ∧ origIn = 0 then some rBuf
  else if flush = fFinish then
    if st = tDone then (if avail ≠ 0 then some rBuf else some rStreamEnd)
    else if outLeft = 0 then some rBuf else none
  else if st = tDone ∨ inLeft = 0 ∨ outLeft = 0 ∨ avail ≠ 0 then
    (if st = tDone ∧ avail = 0 then some rStreamEnd else some rOk)
  else none

theorem loopExit_cases {flush origIn : Nat} {st : Int} {avail inLeft outLeft : Nat} {k : Int}
    (h : loopExit flush origIn st avail inLeft outLeft = some k) :
    k = rBuf ∨ (k = rData ∧ st < 0 ∧ st ≠ tFailedCannotMakeProgress) ∨ (k = rStreamEnd ∧ st = tDone ∧ avail = 0) ∨
    (k = rOk ∧ (inLeft = 0 ∨ outLeft = 0 ∨ avail ≠ 0)) := by
  unfold loopExit at h
  by_cases h1 : st = tFailedCannotMakeProgress
  · rw [if_pos h1] at h; cases h; exact .inl rfl
  rw [if_neg h1] at h
  by_cases h2 : st < 0
  · rw [if_pos h2] at h; cases h; exact .inr (.inl ⟨rfl, h2, h1⟩)
  rw [if_neg h2] at h
  by_cases h3 : st = tNeedsMoreInput ∧ origIn = 0
  · rw [if_pos h3] at h; cases h; exact .inl rfl
  rw [if_neg h3] at h
  by_cases h4 : flush = fFinish
  · rw [if_pos h4] at h
    by_cases h5 : st = tDone
    · rw [if_pos h5] at h
      by_cases h6 : avail ≠ 0
      · rw [if_pos h6] at h; cases h; exact .inl rfl
      · rw [if_neg h6] at h; cases h; exact .inr (.inr (.inl ⟨rfl, h5, Decidable.of_not_not h6⟩))
    · rw [if_neg h5] at h
      by_cases h6 : outLeft = 0
      · rw [if_pos h6] at h; cases h; exact .inl rfl
      · rw [if_neg h6] at h; cases h
  · rw [if_neg h4] at h
    by_cases h5 : st = tDone ∨ inLeft = 0 ∨ outLeft = 0 ∨ avail ≠ 0
    · rw [if_pos h5] at h
      by_cases h6 : st = tDone ∧ avail = 0
      · rw [if_pos h6] at h; cases h; exact .inr (.inr (.inl ⟨rfl, h6⟩))
      · -- `Done` with bytes still pending counts as bytes pending
        rw [if_neg h6] at h; cases h; exact .inr (.inr (.inr ⟨rfl, by omega⟩))
    · rw [if_neg h5] at h; cases h

theorem loop_contract {flush flags origIn : Nat} {s : St} {inLeft outLeft c w : Nat} {calls : List Call} {r : Resp} {rs : List Resp}
    (hb : r.ib > inLeft ∨ r.ob > dictSize - s.dictOfs) :
    loop flush flags origIn s inLeft outLeft c w calls (r :: rs) = .contract := by
  rw [loop, if_pos hb]

/-- One round of `inflate_loop` on an answer within the decoder's contract: `n` bytes delivered, state `s2`. -/
theorem loop_cons {flush flags origIn : Nat} {s : St} {inLeft outLeft c w : Nat} {calls : List Call} {r : Resp} {rs : List Resp}
    (hb : ¬ (r.ib > inLeft ∨ r.ob > dictSize - s.dictOfs)) {n : Nat} {s2 : St}
    (hp : pushDictOut { s with lastStatus := r.st, dictAvail := r.ob } outLeft = (n, s2)) :
    loop flush flags origIn s inLeft outLeft c w calls (r :: rs) =
      (loopExit flush origIn r.st s2.dictAvail (inLeft - r.ib) (outLeft - n)).elim
        (loop flush flags origIn s2 (inLeft - r.ib) (outLeft - n) (c + r.ib) (w + n)
          (calls ++ [(inLeft, s.dictOfs, dictSize, flags)]) rs)
        (fun k => .ok s2 ⟨c + r.ib, w + n, k⟩ (calls ++ [(inLeft, s.dictOfs, dictSize, flags)])) := by
  rw [loop, if_neg hb]
  simp only [hp, loopExit, Option.elim_ite, Option.elim_some, Option.elim_none]

/-- What every answer of `inflate_loop` satisfies, for every script of core responses. -/
structure LoopPost (s : St) (inLeft outLeft c w : Nat) (s' : St) (r : Result) : Prop where
  inv    : s'.dictOfs < dictSize ∧ s'.dictOfs + s'.dictAvail ≤ dictSize
  cHi    : r.consumed ≤ c + inLeft
  wHi    : r.written ≤ w + outLeft
  same   : s'.fmt = s.fmt ∧ s'.hasFlushed = s.hasFlushed ∧ s'.firstCall = s.firstCall
  status : r.status = rBuf ∨ (r.status = rData ∧ s'.lastStatus < 0 ∧ s'.lastStatus ≠ tFailedCannotMakeProgress) ∨
           (r.status = rStreamEnd ∧ s'.lastStatus = tDone ∧ s'.dictAvail = 0) ∨
           (r.status = rOk ∧ (r.consumed = c + inLeft ∨ r.written = w + outLeft))

theorem LoopPost.lift {s s2 s' : St} {inLeft outLeft c w ib n : Nat} {r : Result}
    (hib : ib ≤ inLeft) (hn : n ≤ outLeft)
    (hsame : s2.fmt = s.fmt ∧ s2.hasFlushed = s.hasFlushed ∧ s2.firstCall = s.firstCall)
    (p : LoopPost s2 (inLeft - ib) (outLeft - n) (c + ib) (w + n) s' r) : LoopPost s inLeft outLeft c w s' r :=
  { inv := p.inv
    cHi := by have := p.cHi; omega
    wHi := by have := p.wHi; omega
    same := ⟨p.same.1.trans hsame.1, p.same.2.1.trans hsame.2.1, p.same.2.2.trans hsame.2.2⟩
    status := p.status.imp_right (Or.imp_right (Or.imp_right (And.imp_right (by omega)))) }

theorem loop_post (flush flags origIn : Nat) : ∀ (script : List Resp) (s : St) (inLeft outLeft c w : Nat)
    (calls : List Call) (s' : St) (r : Result) (cs : List Call),
    s.dictOfs < dictSize →
    loop flush flags origIn s inLeft outLeft c w calls script = .ok s' r cs →
    LoopPost s inLeft outLeft c w s' r := by
  intro script
  induction script with
  | nil => intro s inLeft outLeft c w calls s' r cs _ h; rw [loop] at h; cases h
  | cons x xs ih =>
    intro s inLeft outLeft c w calls s' r cs hofs h
    by_cases hb : x.ib > inLeft ∨ x.ob > dictSize - s.dictOfs
    · rw [loop_contract hb] at h; cases h
    have hpd := pushDictOut_spec { s with lastStatus := x.st, dictAvail := x.ob } outLeft (by simp only; omega)
    generalize hp : pushDictOut { s with lastStatus := x.st, dictAvail := x.ob } outLeft = p at hpd
    obtain ⟨n, s2⟩ := p
    obtain ⟨hn1, _, _, ho, hinv, hls, hfmt, hfl, hfc, hfull⟩ := hpd
    rw [loop_cons hb hp] at h
    cases hx : loopExit flush origIn x.st s2.dictAvail (inLeft - x.ib) (outLeft - n) with
    | none => rw [hx, Option.elim_none] at h; exact LoopPost.lift (by omega) hn1 ⟨hfmt, hfl, hfc⟩ (ih s2 _ _ _ _ _ _ _ _ ho h)
    | some k =>
      rw [hx, Option.elim_some] at h; cases h
      refine ⟨⟨ho, hinv⟩, by show c + x.ib ≤ c + inLeft; omega, by show w + n ≤ w + outLeft; omega, ⟨hfmt, hfl, hfc⟩, ?_⟩
      rw [hls]
      refine (loopExit_cases hx).imp_right (Or.imp_right (Or.imp_right (And.imp_right fun hok => ?_)))
      -- Ok: input used up, or room used up, or bytes left pending, which means the room is used up
      show c + x.ib = c + inLeft ∨ w + n = w + outLeft
      rcases hok with h1 | h1 | h1
      · left; omega
      · right; omega
      · right; have := hfull h1; omega

/-! The branches of `inflate()`, one equation each; the three early returns on a refused flush value
or a recorded failure are `C13.full_flush_is_stream_error`, `C13.cannot_progress_sticky_step` and
`C13.data_error_sticky_step`. -/

theorem inflate_after_finish {s : St} {flush : Nat} (inLen outLen : Nat) (script : List Resp)
    (hfl : flush ≠ fFull) (h1 : s.lastStatus ≠ tFailedCannotMakeProgress) (h2 : ¬ s.lastStatus < 0)
    (h3 : s.hasFlushed = true ∧ flush ≠ fFinish) :
    inflate s inLen outLen flush script = .ok { s with firstCall := false } ⟨0, 0, rStream⟩ [] := by
  unfold inflate
  rw [if_neg hfl]
  dsimp only
  rw [if_neg h1, if_neg h2, if_pos h3]

theorem inflate_finish_first {s : St} (inLen outLen : Nat) (script : List Resp)
    (h1 : s.lastStatus ≠ tFailedCannotMakeProgress) (h2 : ¬ s.lastStatus < 0) (hfc : s.firstCall = true) :
    inflate s inLen outLen fFinish script =
      let s1 := { s with firstCall := false, hasFlushed := s.hasFlushed || fFinish == fFinish }
      let calls := [(inLen, 0, outLen, baseFlags s.fmt + flagNonWrapping)]
      match script with
      | [] => .stuck calls
      | r :: _ =>
        if r.ib > inLen ∨ r.ob > outLen then .contract
        else if r.st = tFailedCannotMakeProgress then .ok { s1 with lastStatus := r.st } ⟨r.ib, r.ob, rBuf⟩ calls
        else if r.st < 0 then .ok { s1 with lastStatus := r.st } ⟨r.ib, r.ob, rData⟩ calls
        else if r.st ≠ tDone then .ok { s1 with lastStatus := tFailed } ⟨r.ib, r.ob, rBuf⟩ calls
        else .ok { s1 with lastStatus := r.st } ⟨r.ib, r.ob, rStreamEnd⟩ calls := by
  unfold inflate
  rw [if_neg (by decide)]
  dsimp only
  rw [if_neg h1, if_neg h2, if_neg (fun h => h.2 rfl), if_pos ⟨rfl, hfc⟩]
  rfl

theorem inflate_pending {s : St} {flush : Nat} (inLen outLen : Nat) (script : List Resp)
    (hfl : flush ≠ fFull) (h1 : s.lastStatus ≠ tFailedCannotMakeProgress) (h2 : ¬ s.lastStatus < 0)
    (h3 : ¬ (s.hasFlushed = true ∧ flush ≠ fFinish)) (h4 : ¬ (flush = fFinish ∧ s.firstCall = true)) (h5 : s.dictAvail ≠ 0) :
    inflate s inLen outLen flush script =
      let p := pushDictOut { s with firstCall := false, hasFlushed := s.hasFlushed || flush == fFinish } outLen
      .ok p.2 ⟨0, p.1, if p.2.lastStatus = tDone ∧ p.2.dictAvail = 0 then rStreamEnd else rOk⟩ [] := by
  unfold inflate
  rw [if_neg hfl]
  dsimp only
  rw [if_neg h1, if_neg h2, if_neg h3, if_neg h4, if_pos h5]

theorem inflate_loop {s : St} {flush : Nat} (inLen outLen : Nat) (script : List Resp)
    (hfl : flush ≠ fFull) (h1 : s.lastStatus ≠ tFailedCannotMakeProgress) (h2 : ¬ s.lastStatus < 0)
    (h3 : ¬ (s.hasFlushed = true ∧ flush ≠ fFinish)) (h4 : ¬ (flush = fFinish ∧ s.firstCall = true)) (h5 : ¬ s.dictAvail ≠ 0) :
    inflate s inLen outLen flush script =
      loop flush (if flush ≠ fFinish then baseFlags s.fmt + flagHasMoreInput else baseFlags s.fmt) inLen
        { s with firstCall := false, hasFlushed := s.hasFlushed || flush == fFinish } inLen outLen 0 0 [] script := by
  unfold inflate
  rw [if_neg hfl]
  dsimp only
  rw [if_neg h1, if_neg h2, if_neg h3, if_neg h4, if_neg h5]

end Model.Infl
