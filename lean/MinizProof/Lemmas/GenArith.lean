/-
Arithmetic facts about the fixed-width operations of Gen/Prelude.lean: an operation whose exact
result is in range is the exact operation; the saturating ones on `usize` are `min` and truncated `-`.
-/
import MinizProof.Gen.Prelude
namespace G

theorem two_pow_pos (b : Nat) : (0 : Int) < two ^ b := by
  unfold two; exact Int.pow_pos (by decide)

theorem wrap_u_of_lt {b : Nat} {x : Int} (h0 : 0 ≤ x) (h1 : x < two ^ b) : wrap (.u b) x = x := by
  unfold wrap
  exact Int.emod_eq_of_lt h0 h1

theorem two_pow_64 : two ^ 64 = 18446744073709551616 := by unfold two; decide
theorem two_pow_32 : two ^ 32 = 4294967296 := by unfold two; decide
theorem two_pow_16 : two ^ 16 = 65536 := by unfold two; decide
theorem two_pow_8 : two ^ 8 = 256 := by unfold two; decide

theorem add_u64_of_lt {a b : Int} (h0 : 0 ≤ a + b) (h1 : a + b < 18446744073709551616) :
    add (.u 64) a b = a + b := by
  unfold add; exact wrap_u_of_lt h0 (by rw [two_pow_64]; exact h1)

theorem mul_u64_of_lt {a b : Int} (h0 : 0 ≤ a * b) (h1 : a * b < 18446744073709551616) :
    mul (.u 64) a b = a * b := by
  unfold mul; exact wrap_u_of_lt h0 (by rw [two_pow_64]; exact h1)

theorem tyMax_u64 : tyMax (.u 64) = 18446744073709551615 := by
  show two ^ 64 - 1 = _; rw [two_pow_64]; rfl

theorem clamp_u64 (x : Int) :
    clamp (.u 64) x = if x < 0 then 0 else if x > 18446744073709551615 then 18446744073709551615 else x := by
  unfold clamp; rw [tyMax_u64]; rfl

/-- `usize::saturating_add` on values that are `usize`s -/
theorem satAdd_u64 (a b : Nat) : satAdd (.u 64) (a : Int) (b : Int) = ((min (a + b) (2 ^ 64 - 1) : Nat) : Int) := by
  unfold satAdd
  rw [clamp_u64, if_neg (by omega)]
  by_cases h : (a : Int) + b > 18446744073709551615
  · rw [if_pos h]; omega
  · rw [if_neg h]; omega

/-- `usize::saturating_sub` -/
theorem satSub_u64 (a b : Nat) (ha : a < 2 ^ 64) : satSub (.u 64) (a : Int) (b : Int) = ((a - b : Nat) : Int) := by
  unfold satSub
  rw [clamp_u64]
  by_cases h : (a : Int) - b < 0
  · rw [if_pos h]; omega
  · rw [if_neg h, if_neg (by omega)]; omega

theorem pat_nat (b : Nat) (a : Nat) (h : a < 2 ^ b) : pat b (a : Int) = a := by
  unfold pat two
  have h2 : ((2:Int) ^ b) = ((2 ^ b : Nat) : Int) := by norm_cast
  rw [h2, Int.emod_eq_of_lt (by omega) (by exact_mod_cast h)]
  simp

theorem band_u_nat (w a b : Nat) (ha : a < 2 ^ w) (hb : b < 2 ^ w) :
    band (.u w) (a : Int) (b : Int) = ((a &&& b : Nat) : Int) := by
  unfold band Ty.bits
  rw [pat_nat w a ha, pat_nat w b hb]
  have hle : a &&& b ≤ a := Nat.and_le_left
  show wrap (.u w) ((a &&& b : Nat) : Int) = _
  refine wrap_u_of_lt (Int.natCast_nonneg _) ?_
  unfold two
  exact_mod_cast Nat.lt_of_le_of_lt hle ha

theorem band_u64_nat (a b : Nat) (ha : a < 2 ^ 64) (hb : b < 2 ^ 64) :
    band (.u 64) (a : Int) (b : Int) = ((a &&& b : Nat) : Int) := band_u_nat 64 a b ha hb

theorem band_u32_nat (a b : Nat) (ha : a < 2 ^ 32) (hb : b < 2 ^ 32) :
    band (.u 32) (a : Int) (b : Int) = ((a &&& b : Nat) : Int) := band_u_nat 32 a b ha hb

theorem band_low (w k : Nat) (x m : Int) (h0 : 0 ≤ x) (hx : x < 2 ^ w) (hk : k ≤ w) (hm : m = ((2 ^ k - 1 : Nat) : Int)) :
    band (.u w) x m = ((x.toNat % 2 ^ k : Nat) : Int) := by
  have h2 : 2 ^ k ≤ 2 ^ w := Nat.pow_le_pow_right (by decide) hk
  have hxw : x.toNat < 2 ^ w := by
    have : ((x.toNat : Nat) : Int) < ((2 ^ w : Nat) : Int) := by rw [Int.toNat_of_nonneg h0]; exact_mod_cast hx
    exact_mod_cast this
  rw [hm, ← Nat.and_two_pow_sub_one_eq_mod, ← band_u_nat w x.toNat (2 ^ k - 1) hxw (by omega), Int.toNat_of_nonneg h0]

/-- An entry of a translated table, read through the list the array was written as. -/
theorem idx_natCast (arr : Array Int) {n : Nat} (hn : arr.size = n) (i : Nat) (h : i < n) :
    arr.toList[i]? = some (idx arr (i : Int)) := by
  subst hn
  simp [idx, Array.getD_eq_getD_getElem?, h]

theorem and_two_pow_ne_zero (f k : Nat) : (f &&& 2 ^ k ≠ 0) ↔ f / 2 ^ k % 2 = 1 := by
  have h2 := @Nat.testBit_eq_decide_div_mod_eq k f
  constructor
  · intro h
    by_cases ht : f.testBit k
    · rw [h2] at ht; simpa using ht
    · exfalso; apply h
      apply Nat.eq_of_testBit_eq
      intro j
      simp only [Nat.testBit_and, Nat.testBit_two_pow, Nat.zero_testBit]
      by_cases hj : k = j
      · subst hj; simp [ht]
      · simp [hj]
  · intro h hz
    have : (f &&& 2 ^ k).testBit k = true := by
      simp only [Nat.testBit_and, Nat.testBit_two_pow]
      simp [h2, h]
    rw [hz] at this
    simp at this

theorem zip_idx_natCast (a b : Array Int) {n : Nat} (ha : a.size = n) (hb : b.size = n) (i : Nat) (h : i < n) :
    (a.toList.zip b.toList)[i]? = some (idx a (i : Int), idx b (i : Int)) := by
  rw [List.getElem?_zip_eq_some]
  exact ⟨idx_natCast a ha i h, idx_natCast b hb i h⟩

end G
