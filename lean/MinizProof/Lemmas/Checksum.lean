/-
Adler-32 and CRC-32 of `Spec/Checksum.lean` compose: continuing from the checksum of `a` over `b`
gives the checksum of `a ++ b`. For Adler-32 this needs the two halves to stay below 2^16, so that
packing and unpacking the running pair loses nothing.
-/
import MinizProof.Spec.Checksum
namespace Spec

theorem adlerStep_lt (s : Nat × Nat) (b : UInt8) :
    (adlerStep s b).1 < 65536 ∧ (adlerStep s b).2 < 65536 := by
  unfold adlerStep adlerBase
  constructor <;> (simp only; omega)

theorem foldl_adlerStep_lt (d : List UInt8) (s : Nat × Nat) (h : s.1 < 65536 ∧ s.2 < 65536) :
    (d.foldl adlerStep s).1 < 65536 ∧ (d.foldl adlerStep s).2 < 65536 := by
  induction d generalizing s with
  | nil => exact h
  | cons b t ih => exact ih _ (adlerStep_lt s b)

theorem adlerUnpack_pack (s : Nat × Nat) (h : s.1 < 65536 ∧ s.2 < 65536) :
    adlerUnpack (adlerPack s) = s := by
  unfold adlerUnpack adlerPack
  obtain ⟨a, b⟩ := s
  simp only at h ⊢
  have h1 : (b * 65536 + a) % 65536 = a := by omega
  have h2 : (b * 65536 + a) / 65536 % 65536 = b := by omega
  rw [h1, h2]

theorem adlerUnpack_lt (x : Nat) : (adlerUnpack x).1 < 65536 ∧ (adlerUnpack x).2 < 65536 := by
  unfold adlerUnpack; constructor <;> (simp only; omega)

theorem adler32_append (init : Nat) (a b : List UInt8) :
    adler32 (adler32 init a) b = adler32 init (a ++ b) := by
  unfold adler32
  rw [adlerUnpack_pack _ (foldl_adlerStep_lt a _ (adlerUnpack_lt init)), List.foldl_append]

theorem adler32_lt (init : Nat) (d : List UInt8) : adler32 init d < 2 ^ 32 := by
  unfold adler32 adlerPack
  have := foldl_adlerStep_lt d _ (adlerUnpack_lt init)
  omega

theorem crc32_append (init : Nat) (a b : List UInt8) :
    crc32 (crc32 init a) b = crc32 init (a ++ b) := by
  unfold crc32
  rw [Nat.xor_assoc _ crcMask, Nat.xor_self, Nat.xor_zero, List.foldl_append]

theorem foldl_chunks {f : Nat → List UInt8 → Nat} (hf : ∀ i a b, f (f i a) b = f i (a ++ b))
    (init : Nat) (c : List UInt8) (cs : List (List UInt8)) :
    cs.foldl f (f init c) = f init (c ++ cs.flatten) := by
  induction cs generalizing c with
  | nil => simp
  | cons d t ih => rw [List.foldl_cons, hf, ih, List.flatten_cons, List.append_assoc]

end Spec
