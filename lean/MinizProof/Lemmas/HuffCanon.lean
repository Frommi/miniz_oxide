/-
THE REFERENCE DECODER INVERTS THE RFC's CANONICAL CODE ASSIGNMENT (RFC 1951 §3.2.2): for any set of
code lengths (≤ 15 each), the symbol `s` with length `L > 0` has the code `firstAt L + symRank s`
(first code of its length plus its rank among the symbols of that length), and the counting decoder
`Spec.decodeSym` reading those `L` bits, most significant first, returns `s` and stops after exactly
`L` bits — whatever follows. No completeness assumption: the set of lengths may be incomplete; that it
is not over-subscribed is used only to know that the code fits its `L` bits. Used by Props/C10.
-/
import MinizProof.Lemmas.ClenShallow
namespace Model.Core
open Spec

def symRank (lens : Array Nat) (s : Nat) : Nat := (List.range s).countP (fun t => lens.getD t 0 = lens.getD s 0)

theorem symRank_toList (lens : Array Nat) {s : Nat} (hs : s ≤ lens.size) :
    symRank lens s = (lens.toList.take s).countP (· = lens.getD s 0) :=
  countP_range_getD lens (· = lens.getD s 0) hs

theorem filter_range_get (p : Nat → Bool) : ∀ (n s : Nat), s < n → p s = true →
    ((List.range n).filter p)[(List.range s).countP p]? = some s := by
  intro n
  induction n with
  | zero => intro s h; exact absurd h (Nat.not_lt_zero _)
  | succ n ih =>
    intro s hs hp
    rw [List.range_succ, List.filter_append]
    by_cases hlt : s < n
    · have := ih s hlt hp
      rw [List.getElem?_append_left]
      · exact this
      · have := List.getElem?_eq_some_iff.mp this
        exact this.1
    · have he : s = n := by omega
      subst he
      have hlen : ((List.range s).filter p).length = (List.range s).countP p := by rw [List.countP_eq_length_filter]
      rw [List.getElem?_append_right (by omega), hlen, Nat.sub_self]
      simp [hp]

theorem level_get (lens : Array Nat) (s : Nat) (hs : s < lens.size) :
    (level lens (lens.getD s 0))[symRank lens s]? = some s := by
  unfold level symRank
  exact filter_range_get (fun t => decide (lens.getD t 0 = lens.getD s 0)) lens.size s hs (by simp)

theorem symRank_lt (lens : Array Nat) (s : Nat) (hs : s < lens.size) : symRank lens s < cntEq lens (lens.getD s 0) := by
  have h := level_get lens s hs
  have := (List.getElem?_eq_some_iff.mp h).1
  rw [level_length] at this
  exact this

theorem levels_get (lens : Array Nat) : ∀ (f len j r : Nat), j < f → r < cntEq lens (len + j) →
    (levels lens len f)[sumCnt lens len j + r]? = (level lens (len + j))[r]? := by
  intro f
  induction f with
  | zero => intro len j r h; exact absurd h (Nat.not_lt_zero _)
  | succ f ih =>
    intro len j r hj hr
    cases j with
    | zero =>
      show (level lens len ++ _)[0 + r]? = _
      rw [Nat.zero_add, List.getElem?_append_left (by rw [level_length]; exact hr)]
      rfl
    | succ j =>
      show (level lens len ++ _)[cntEq lens len + sumCnt lens (len + 1) j + r]? = _
      rw [show len + (j + 1) = len + 1 + j by omega] at hr ⊢
      rw [List.getElem?_append_right (by rw [level_length]; omega), level_length, Nat.add_assoc, Nat.add_sub_cancel_left]
      exact ih (len + 1) j r (by omega) hr

/-- THE SORTED SYMBOL TABLE: the symbol `s` of length `L` sits at index (number of symbols with a
    shorter non-zero length) + (its rank among the symbols of length `L`). -/
theorem syms_get (lens : Array Nat) (s : Nat) (hs : s < lens.size) (h1 : 1 ≤ lens.getD s 0) (h15 : lens.getD s 0 ≤ 15) :
    (mkCode lens).syms.getD (sumCnt lens 1 (lens.getD s 0 - 1) + symRank lens s) 0 = s := by
  show (sortedSymsAux lens 15 1 #[]).getD _ 0 = s
  have e : 1 + (lens.getD s 0 - 1) = lens.getD s 0 := by omega
  have := levels_get lens 15 1 (lens.getD s 0 - 1) (symRank lens s) (by omega) (by rw [e]; exact symRank_lt lens s hs)
  rw [e, level_get lens s hs] at this
  rw [sortedSymsAux_eq, Array.getD_eq_getD_getElem?, Array.empty_append, List.getElem?_toArray, this]
  rfl

/-- the decoder's `first` (first code of length `len`, RFC 1951 §3.2.2 step 2) -/
def firstAt (lens : Array Nat) : Nat → Nat
  | 0 => 0
  | 1 => 0
  | l + 2 => 2 * (firstAt lens (l + 1) + cntEq lens (l + 1))

/-- THE CANONICAL CODE of symbol `s` (RFC 1951 §3.2.2 step 3): first code of its length + its rank -/
def canonCode (lens : Array Nat) (s : Nat) : Nat := firstAt lens (lens.getD s 0) + symRank lens s

/-- bit `i` of a code `c` of length `L`, in transmission order (most significant first) -/
def codeBit (c L i : Nat) : Nat := (c >>> (L - 1 - i)) % 2

theorem firstAt_succ (lens : Array Nat) (k : Nat) : firstAt lens (k + 2) = 2 * (firstAt lens (k + 1) + cntEq lens (k + 1)) := rfl

theorem firstAt_above (lens : Array Nat) (a : Nat) : ∀ j : Nat,
    (firstAt lens (a + 1) + cntEq lens (a + 1)) * 2 ^ (j + 1) ≤ firstAt lens (a + 2 + j) := by
  intro j
  induction j with
  | zero => rw [firstAt_succ]; omega
  | succ j ih =>
    rw [show a + 2 + (j + 1) = a + 1 + j + 2 by omega, firstAt_succ, show a + 1 + j + 1 = a + 2 + j by omega, Nat.pow_succ,
      ← Nat.mul_assoc]
    omega

theorem prefix_above (lens : Array Nat) {c L k : Nat} (hk : k + 2 ≤ L) (hc : firstAt lens L ≤ c) :
    firstAt lens (k + 1) + cntEq lens (k + 1) ≤ c >>> (L - (k + 1)) := by
  have h := firstAt_above lens k (L - (k + 2))
  rw [show k + 2 + (L - (k + 2)) = L by omega, show L - (k + 2) + 1 = L - (k + 1) by omega] at h
  rw [Nat.shiftRight_eq_div_pow, Nat.le_div_iff_mul_le (Nat.two_pow_pos _)]
  exact Nat.le_trans h hc

theorem codeBit_step (c : Nat) {L k : Nat} (h : k < L) : 2 * (c >>> (L - k)) + codeBit c L k = c >>> (L - (k + 1)) := by
  unfold codeBit
  rw [show L - k = L - (k + 1) + 1 by omega, show L - 1 - k = L - (k + 1) by omega, Nat.shiftRight_succ]
  omega

theorem sumCnt_lt_size (lens : Array Nat) {k L : Nat} (hk : k < L) (hL : L ≤ 15) (hpos : 0 < cntEq lens L) :
    sumCnt lens 1 k < (mkCode lens).syms.size := by
  have h1 := sumCnt_le lens 1 (show k ≤ L - 1 by omega)
  have h2 := sumCnt_le lens 1 (show L - 1 + 1 ≤ 15 by omega)
  rw [sumCnt_succ, show 1 + (L - 1) = L by omega] at h2
  rw [mkCode_syms_size]
  omega

/-- THE COUNTING WALK ON THE BITS OF A CANONICAL CODE: from level `k + 1` with the first `k` bits read. -/
theorem decodeSymAux_canon (lens : Array Nat) (data : Array UInt8) (pos0 s : Nat) (hs : s < lens.size)
    (h15 : lens.getD s 0 ≤ 15)
    (hbits : ∀ i, i < lens.getD s 0 → bitAt data (pos0 + i) = some (codeBit (canonCode lens s) (lens.getD s 0) i)) :
    ∀ (fuel k : Nat), k < lens.getD s 0 → lens.getD s 0 - k ≤ fuel →
    decodeSymAux (mkCode lens) data fuel (k + 1) (pos0 + k) (2 * (canonCode lens s >>> (lens.getD s 0 - k)))
      (firstAt lens (k + 1)) (sumCnt lens 1 k) = .sym s (pos0 + lens.getD s 0) := by
  have hrank := symRank_lt lens s hs
  have hget := syms_get lens s hs
  unfold canonCode at *
  generalize lens.getD s 0 = L at *
  generalize symRank lens s = r at *
  intro fuel
  induction fuel with
  | zero => intro k hk hf; omega
  | succ f ih =>
    intro k hk hf
    rw [decodeSymAux_bit _ _ _ _ _ _ _ _ (sumCnt_lt_size lens hk h15 (Nat.zero_lt_of_lt hrank)) (hbits k hk), codeBit_step _ hk,
      show (mkCode lens).count.getD (k + 1) 0 = cntEq lens (k + 1) from countLens_getD lens (k + 1) (by omega)]
    by_cases hl : k + 1 = L
    · -- the last bit completes the code, which is one of the `cntEq lens L` codes from `firstAt lens L` on
      rw [hl, Nat.sub_self, Nat.shiftRight_zero, if_pos (by omega), Nat.add_sub_cancel_left,
        show k = L - 1 by omega, hget (by omega) h15, show pos0 + (L - 1) + 1 = pos0 + L by omega]
    · -- a proper prefix lies above all codes of its length: the walk goes one level down
      rw [if_neg (Nat.not_lt.mpr (prefix_above lens (by omega) (Nat.le_add_right _ _))), ← firstAt_succ,
        show sumCnt lens 1 k + cntEq lens (k + 1) = sumCnt lens 1 (k + 1) by rw [sumCnt_succ, Nat.add_comm 1 k]]
      exact ih (k + 1) (by omega) (by omega)

/-- Kraft bookkeeping against the canonical construction: as long as the length set is not
    over-subscribed, the codes of every length fit that many bits. -/
theorem kraft_fits (lens : Array Nat) : ∀ (fuel len left : Nat) (r : Nat), 1 ≤ len → len + fuel ≤ 16 →
    2 * left + firstAt lens len = 2 ^ len →
    kraftLeftAux (countLens lens) fuel len left = some r →
    ∀ j, j < fuel → firstAt lens (len + j) + cntEq lens (len + j) ≤ 2 ^ (len + j) := by
  intro fuel
  induction fuel with
  | zero => intro len left r _ _ _ _ j hj; exact absurd hj (Nat.not_lt_zero _)
  | succ fuel ih =>
    intro len left r h1 h16 hinv hk j hj
    rw [kraftLeftAux_succ, countLens_getD lens len (by omega)] at hk
    by_cases hov : 2 * left < cntEq lens len
    · rw [if_pos hov] at hk; cases hk
    · rw [if_neg hov] at hk
      cases j with
      | zero => rw [Nat.add_zero]; omega
      | succ j =>
        obtain ⟨l, rfl⟩ : ∃ l, len = l + 1 := ⟨len - 1, by omega⟩
        have := ih (l + 1 + 1) (2 * left - cntEq lens (l + 1)) r (by omega) (by omega) (by
          rw [firstAt_succ, Nat.pow_succ]; omega) hk j (by omega)
        rwa [show l + 1 + 1 + j = l + 1 + (j + 1) by omega] at this

/-- THE REFERENCE DECODER INVERTS THE CANONICAL CODE (Props/C10). `hk`: the set of lengths is not over-subscribed,
    which every set `Spec.codeValid` accepts satisfies. -/
theorem canonical_code_is_decoded (lens : Array Nat) (data : Array UInt8) (pos s r : Nat) (hs : s < lens.size)
    (hk : kraftLeft (countLens lens) = some r)
    (h1 : 1 ≤ lens.getD s 0) (h15 : lens.getD s 0 ≤ 15)
    (hbits : ∀ i, i < lens.getD s 0 → bitAt data (pos + i) = some (codeBit (canonCode lens s) (lens.getD s 0) i)) :
    decodeSym (mkCode lens) data pos = .sym s (pos + lens.getD s 0) ∧ canonCode lens s < 2 ^ lens.getD s 0 := by
  have hfit : canonCode lens s < 2 ^ lens.getD s 0 := by
    have := kraft_fits lens 15 1 1 r (Nat.le_refl _) (by omega) (by show 2 * 1 + 0 = 2 ^ 1; decide) hk (lens.getD s 0 - 1) (by omega)
    have e : 1 + (lens.getD s 0 - 1) = lens.getD s 0 := by omega
    rw [e] at this
    have hr := symRank_lt lens s hs
    unfold canonCode
    omega
  refine ⟨?_, hfit⟩
  have h := decodeSymAux_canon lens data pos s hs h15 hbits 15 0 h1 (by omega)
  rwa [Nat.sub_zero, Nat.shiftRight_eq_div_pow, Nat.div_eq_of_lt hfit] at h

theorem canonCode_lt (lens : Array Nat) (s t : Nat) (hst : s < t) (hl : lens.getD s 0 = lens.getD t 0) :
    canonCode lens s < canonCode lens t := by
  unfold canonCode symRank
  rw [hl]
  have : (List.range t) = List.range s ++ (List.range (t - s)).map (fun x => s + x) := by
    have h := @List.range_add s (t - s)
    rw [show s + (t - s) = t by omega] at h
    exact h
  rw [this, List.countP_append]
  have hpos : 0 < ((List.range (t - s)).map (fun x => s + x)).countP (fun u => lens.getD u 0 = lens.getD t 0) := by
    rw [List.countP_pos_iff]
    exact ⟨s, by simp only [List.mem_map, List.mem_range]; exact ⟨0, by omega, by omega⟩, by simp [hl]⟩
  omega

end Model.Core
