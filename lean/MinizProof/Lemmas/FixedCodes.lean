/-
The fixed Huffman code lengths of RFC 1951 §3.2.6 form valid code sets. `fixedLitLens` is an
`Array.ofFn` and `countLens` an `Array.foldl`, both of which the kernel evaluates very slowly, so
the lengths are first brought into the form of four constant runs and counted run by run. The two
codes are also given as literals (`fixedLitCode_eq`, `fixedDistCode_eq`): rewrite with them before
evaluating the reference decoder on a stream with a fixed-Huffman block.
-/
import MinizProof.Lemmas.HuffCanon
namespace Spec
open Model.Core

theorem fixedLitLens_toList : fixedLitLens.toList =
    List.replicate 144 8 ++ List.replicate 112 9 ++ List.replicate 24 7 ++ List.replicate 8 8 := by
  unfold fixedLitLens
  rw [Array.toList_ofFn]
  decide +kernel

theorem fixedLit_count : countLens fixedLitLens = #[0, 0, 0, 0, 0, 0, 0, 24, 152, 112, 0, 0, 0, 0, 0, 0] := by
  rw [countLens_toList, fixedLitLens_toList]
  simp only [List.foldl_append, countLens_replicate _ (by decide : 8 < 16), countLens_replicate _ (by decide : 9 < 16),
    countLens_replicate _ (by decide : 7 < 16)]
  decide

/-- First codes of the fixed literal/length code (RFC 1951 §3.2.6): the 7-bit codes start at 0, the 8-bit
    codes at 0x30, the 9-bit codes at 0x190. Stated for any lengths with that histogram: on the closed term
    `fixedLitLens` every arithmetic step would make the kernel evaluate the `Array.ofFn`. -/
theorem firstAt_of_fixedLit_count (lens : Array Nat)
    (hc : ∀ l, l < 16 → cntEq lens l = #[0, 0, 0, 0, 0, 0, 0, 24, 152, 112, 0, 0, 0, 0, 0, 0].getD l 0) :
    firstAt lens 7 = 0 ∧ firstAt lens 8 = 48 ∧ firstAt lens 9 = 400 := by
  simp only [firstAt, Nat.reduceAdd, hc, Nat.reduceLT]
  decide

theorem fixedLit_firstAt : firstAt fixedLitLens 7 = 0 ∧ firstAt fixedLitLens 8 = 48 ∧ firstAt fixedLitLens 9 = 400 :=
  firstAt_of_fixedLit_count _ fun l hl => by rw [← countLens_getD _ _ hl, fixedLit_count]

theorem fixedDist_count : countLens fixedDistLens = #[0, 0, 0, 0, 0, 32, 0, 0, 0, 0, 0, 0, 0, 0, 0, 0] := by
  rw [countLens_toList, fixedDistLens, Array.toList_replicate, countLens_replicate _ (by decide : 5 < 16)]
  decide

theorem fixed_dist_valid : codeValid .dist fixedDistLens = true := by
  rw [codeValid, fixedDist_count, ← Array.all_toList, fixedDistLens, Array.toList_replicate]
  decide

theorem fixed_lit_valid : codeValid .litlen fixedLitLens = true := by
  rw [codeValid, fixedLit_count, ← Array.all_toList, fixedLitLens_toList]
  decide +kernel

theorem fixedLitLens_getD (s : Nat) : fixedLitLens.getD s 0 =
    if s < 144 then 8 else if s < 256 then 9 else if s < 280 then 7 else if s < 288 then 8 else 0 := by
  unfold fixedLitLens
  simp only [Array.getD_eq_getD_getElem?, Array.getElem?_ofFn]
  by_cases h : s < 288
  · simp only [h, ↓reduceDIte, ↓reduceIte, Option.getD_some]
  · have h1 : ¬ s < 144 := by omega
    have h2 : ¬ s < 256 := by omega
    have h3 : ¬ s < 280 := by omega
    simp only [h, h1, h2, h3, ↓reduceDIte, ↓reduceIte, Option.getD_none]


/-- The fixed literal/length code in canonical form: 24 seven-bit, 152 eight-bit, 112 nine-bit codes;
    symbols ordered by (length, value). -/
theorem fixedLitCode_eq : fixedLitCode =
    { count := #[0, 0, 0, 0, 0, 0, 0, 24, 152, 112, 0, 0, 0, 0, 0, 0],
      syms := (List.range' 256 24 ++ List.range' 0 144 ++ List.range' 280 8 ++ List.range' 144 112).toArray } := by
  have hl : levels fixedLitLens 1 15 = List.range' 256 24 ++ List.range' 0 144 ++ List.range' 280 8 ++ List.range' 144 112 := by
    simp only [levels, level, fixedLitLens_getD, show fixedLitLens.size = 288 from Array.size_ofFn]
    decide +kernel
  rw [fixedLitCode, mkCode, fixedLit_count, sortedSymsAux_eq, hl, Array.empty_append]

theorem fixedDistCode_eq : fixedDistCode =
    { count := #[0, 0, 0, 0, 0, 32, 0, 0, 0, 0, 0, 0, 0, 0, 0, 0], syms := (List.range' 0 32).toArray } := by
  have hl : levels fixedDistLens 1 15 = List.range' 0 32 := by
    simp only [levels, level, fixedDistLens, Array.size_replicate, Array.getD_eq_getD_getElem?, Array.getElem?_replicate]
    decide +kernel
  rw [fixedDistCode, mkCode, fixedDist_count, sortedSymsAux_eq, hl, Array.empty_append]

end Spec
