/-
Simulation of a dynamic-Huffman block header (table sizes, the code-length code, the run-length
coded literal/length and distance code lengths) by the decoder model, in stages that stop where the
specification may stop reading (`sim_dyn_clens`, `sim_dyn_clenCode`, `sim_dyn_lens`, `sim_dynamic_header`:
the converse uses each stage for the prefix of the header that was still accepted). Then `sim_block`: ONE
ACCEPTED BLOCK of any type, by `Spec.inflateBlock_cases`; every later theory that follows the model over
accepted blocks (block loop, flush-point prefix, converse) goes through it. Helper lemmas for Props/C03.
-/
import MinizProof.Lemmas.CoreBlocks
import MinizProof.Lemmas.SpecCodes
namespace Model.Core
open Spec
variable {e : Env} {c : Ctx} {outA : Array UInt8}

/-- Registers the header of a dynamic block leaves alone. -/
structure InvD (c c' : Ctx) : Prop where
  finish : c'.r.finish = c.r.finish
  z      : InvZ c c'
  rh     : c'.r.rawHeader = c.r.rawHeader
  bt     : c'.r.blockType = c.r.blockType
  outPos : c'.outPos = c.outPos

theorem InvD.refl (c : Ctx) : InvD c c := ⟨rfl, InvZ.refl c, rfl, rfl, rfl⟩
theorem InvD.trans {a b c : Ctx} (h1 : InvD a b) (h2 : InvD b c) : InvD a c :=
  ⟨h2.finish.trans h1.finish, h1.z.trans h2.z, h2.rh.trans h1.rh, h2.bt.trans h1.bt, h2.outPos.trans h1.outPos⟩
theorem InvD.of_read {inp : Array UInt8} {c c' : Ctx} (h : ReadOK inp c c') : InvD c c' := by
  have i := Inv.of_read h
  exact ⟨i.finish, InvZ.of_inv i, i.rh, by rw [h.regs], h.outPos⟩

theorem micro_tableSize {pos k v : Nat} (hs : c.r.state = sReadTableSizes) (hc : c.r.counter = k) (hk : k < 3)
    (hr : Rep e.inp c pos) (hv : bitsAt e.inp pos ([5, 5, 4].getD k 0) = some v) :
    ∃ c1, step e c outA = .cont c1 outA ∧ c1.r.state = sReadTableSizes ∧ c1.r.counter = k + 1 ∧
      c1.r.tableSizes = c.r.tableSizes.setIfInBounds k (v + [257, 1, 4].getD k 0) ∧
      Rep e.inp c1 (pos + [5, 5, 4].getD k 0) ∧ (c.r.numBits < 8 → c1.r.numBits < 8) ∧ InvD c c1 ∧
      c1.r.lenCodes = c.r.lenCodes := by
  obtain ⟨c1, hrb, hr1, h8, hok, _⟩ := readBits_full hr hv
  rw [step_ReadTableSizes hs]
  unfold stReadTableSizes
  have hlt : c.r.counter < 3 := by omega
  simp only [hlt, ↓reduceIte]
  rw [hc, hrb]
  have hreg := hok.regs
  have hcnt : c1.r.counter = k := by rw [hreg]; exact hc
  have hts : c1.r.tableSizes = c.r.tableSizes := by rw [hreg]
  have hst : c1.r.state = sReadTableSizes := by rw [hreg]; exact hs
  have i := InvD.of_read hok
  refine ⟨_, rfl, hst, by simp [hcnt], by simp [hcnt, hts], hr1.of_eq rfl rfl rfl, h8,
    ⟨i.finish, ⟨i.z.z0, i.z.z1, i.z.zA, i.z.chk⟩, i.rh, i.bt, i.outPos⟩, by rw [hreg]⟩

theorem set3 (t : Array Nat) (h : t.size = 3) (x y z : Nat) :
    ((t.setIfInBounds 0 x).setIfInBounds 1 y).setIfInBounds 2 z = #[x, y, z] := by
  obtain ⟨l⟩ := t
  match l, h with
  | [a, b, c], _ => simp [Array.setIfInBounds]

/-- The fourth `ReadTableSizes` transition: size check, clear the code-length-code lengths. -/
theorem micro_tableSizes_done (hs : c.r.state = sReadTableSizes) (hc : c.r.counter = 3) :
    step e c outA = .cont (setState { c with r := { c.r with clenLens := Array.replicate 19 0, counter := 0 } }
      (if c.r.tableSizes.getD 0 0 ≤ 286 ∧ c.r.tableSizes.getD 1 0 ≤ 30 then sReadHufflenTableCodeSize
        else sBadDistOrLiteralTableLength)) outA := by
  rw [step_ReadTableSizes hs]
  unfold stReadTableSizes
  rw [if_neg (by omega : ¬ c.r.counter < 3)]
  by_cases h : c.r.tableSizes.getD 0 0 ≤ 286 ∧ c.r.tableSizes.getD 1 0 ≤ 30
  · rw [if_pos h, if_pos h]
  · rw [if_neg h, if_neg h]

theorem sim_tableSizes {pos hlit hdist hclen : Nat} (hs : c.r.state = sReadTableSizes) (hc : c.r.counter = 0)
    (hts : c.r.tableSizes.size = 3) (hr : Rep e.inp c pos) (h8 : c.r.numBits < 8)
    (h1 : bitsAt e.inp pos 5 = some hlit) (h2 : bitsAt e.inp (pos + 5) 5 = some hdist)
    (h3 : bitsAt e.inp (pos + 10) 4 = some hclen) (hok : ¬ (hlit + 257 > 286 ∨ hdist + 1 > 30)) :
    ∃ c4, Reaches e c outA c4 outA ∧ c4.r.state = sReadHufflenTableCodeSize ∧ c4.r.counter = 0 ∧
      c4.r.tableSizes = #[hlit + 257, hdist + 1, hclen + 4] ∧ c4.r.clenLens = Array.replicate 19 0 ∧
      Rep e.inp c4 (pos + 14) ∧ c4.r.numBits < 8 ∧ InvD c c4 ∧ c4.r.lenCodes = c.r.lenCodes := by
  obtain ⟨c1, st1, hs1, hc1, ht1, hr1, h81, i1, l1⟩ := micro_tableSize (outA := outA) (k := 0) hs hc (by omega) hr h1
  obtain ⟨c2, st2, hs2, hc2, ht2, hr2, h82, i2, l2⟩ := micro_tableSize (outA := outA) (k := 1) hs1 hc1 (by omega) hr1 h2
  obtain ⟨c3, st3, hs3, hc3, ht3, hr3, h83, i3, l3⟩ := micro_tableSize (outA := outA) (k := 2) hs2 hc2 (by omega) hr2 h3
  have hts3 : c3.r.tableSizes = #[hlit + 257, hdist + 1, hclen + 4] := by
    rw [ht3, ht2, ht1]
    exact set3 _ hts _ _ _
  have st4 := micro_tableSizes_done (e := e) (c := c3) (outA := outA) hs3 hc3
  rw [hts3, if_pos (by show hlit + 257 ≤ 286 ∧ hdist + 1 ≤ 30; omega)] at st4
  refine ⟨_, (Reaches.of_step st1).trans ((Reaches.of_step st2).trans ((Reaches.of_step st3).trans (Reaches.of_step st4))),
    rfl, rfl, hts3, rfl, ?_, h83 (h82 (h81 h8)), ?_, ?_⟩
  · exact hr3.of_eq rfl rfl rfl
  · have i := i1.trans (i2.trans i3)
    exact ⟨i.finish, ⟨i.z.z0, i.z.z1, i.z.zA, i.z.chk⟩, i.rh, i.bt, i.outPos⟩
  · show c3.r.lenCodes = _; rw [l3, l2, l1]

theorem micro_hufflen {pos k v : Nat} (hs : c.r.state = sReadHufflenTableCodeSize) (hc : c.r.counter = k)
    (hk : k < c.r.tableSizes.getD 2 0) (hr : Rep e.inp c pos) (hv : bitsAt e.inp pos 3 = some v) :
    ∃ c1, step e c outA = .cont c1 outA ∧ c1.r.state = sReadHufflenTableCodeSize ∧ c1.r.counter = k + 1 ∧
      c1.r.clenLens = c.r.clenLens.setIfInBounds (clenOrder.getD k 0) v ∧ c1.r.tableSizes = c.r.tableSizes ∧
      Rep e.inp c1 (pos + 3) ∧ (c.r.numBits < 8 → c1.r.numBits < 8) ∧ InvD c c1 ∧
      c1.r.lenCodes = c.r.lenCodes := by
  obtain ⟨c1, hrb, hr1, h8, hok, _⟩ := readBits_full hr hv
  rw [step_ReadHufflenTableCodeSize hs]
  unfold stReadHufflenTableCodeSize
  have hlt : c.r.counter < c.r.tableSizes.getD 2 0 := by omega
  simp only [hlt, ↓reduceIte]
  rw [hrb]
  have hreg := hok.regs
  have hcnt : c1.r.counter = k := by rw [hreg]; exact hc
  have hcl : c1.r.clenLens = c.r.clenLens := by rw [hreg]
  have hst : c1.r.state = sReadHufflenTableCodeSize := by rw [hreg]; exact hs
  have i := InvD.of_read hok
  refine ⟨_, rfl, hst, by simp [hcnt], by simp [hcnt, hcl], by rw [hreg], hr1.of_eq rfl rfl rfl, h8,
    ⟨i.finish, ⟨i.z.z0, i.z.z1, i.z.zA, i.z.chk⟩, i.rh, i.bt, i.outPos⟩, by rw [hreg]⟩

theorem clenOrder_drop (k : Nat) (hk : k < 19) : clenOrder.drop k = clenOrder.getD k 0 :: clenOrder.drop (k + 1) := by
  have hl : k < clenOrder.length := by simpa [clenOrder] using hk
  rw [List.drop_eq_getElem_cons hl]
  congr 1
  simp [List.getD_eq_getElem?_getD, hl]

theorem sim_clens : ∀ (n k pos : Nat) (acc : Array Nat) (c : Ctx) (pos' : Nat) (acc' : Array Nat),
    c.r.state = sReadHufflenTableCodeSize → c.r.counter = k → c.r.tableSizes.getD 2 0 = k + n → k + n ≤ 19 →
    c.r.clenLens = acc → Rep e.inp c pos → c.r.numBits < 8 →
    readClens e.inp n pos (clenOrder.drop k) acc = some (pos', acc') →
    ∃ c', Reaches e c outA c' outA ∧ c'.r.state = sReadHufflenTableCodeSize ∧ c'.r.counter = k + n ∧
      c'.r.clenLens = acc' ∧ c'.r.tableSizes = c.r.tableSizes ∧ Rep e.inp c' pos' ∧ c'.r.numBits < 8 ∧
      InvD c c' ∧ c'.r.lenCodes = c.r.lenCodes := by
  intro n
  induction n with
  | zero =>
    intro k pos acc c pos' acc' hs hc hts hle hcl hr h8 h
    cases (readClens_zero _ _ _ _).symm.trans h
    exact ⟨c, Reaches.refl _ _ _, hs, hc, hcl, rfl, hr, h8, InvD.refl c, rfl⟩
  | succ n ih =>
    intro k pos acc c pos' acc' hs hc hts hle hcl hr h8 h
    rw [clenOrder_drop k (by omega), readClens_cons] at h
    cases hv : bitsAt e.inp pos 3 with
    | none => rw [hv] at h; cases h
    | some v =>
      rw [hv] at h
      obtain ⟨c1, st1, hs1, hc1, hcl1, ht1, hr1, h81, i1, l1⟩ :=
        micro_hufflen (outA := outA) hs hc (by omega) hr hv
      obtain ⟨c', r', hs', hc', hcl', ht', hr', h8', i', l'⟩ :=
        ih (k + 1) (pos + 3) _ c1 pos' acc' hs1 hc1 (by rw [ht1]; omega) (by omega) (by rw [hcl1, hcl]) hr1 (h81 h8) h
      exact ⟨c', (Reaches.of_step st1).trans r', hs', by omega, hcl', by rw [ht', ht1], hr', h8', i1.trans i', by rw [l', l1]⟩

theorem micro_hufflen_done (hs : c.r.state = sReadHufflenTableCodeSize) (hc : c.r.counter = c.r.tableSizes.getD 2 0)
    (hbt : c.r.blockType = 2) (hvalid : codeValid .clen c.r.clenLens = true) :
    ∃ c1, step e c outA = .cont c1 outA ∧ c1.r.state = sReadLitlenDistTablesCodeSize ∧ c1.r.counter = 0 ∧
      c1.r.clenCode = mkCode c.r.clenLens ∧ c1.r.tableSizes = c.r.tableSizes.setIfInBounds 2 19 ∧
      c1.inPos = c.inPos ∧ c1.r.numBits = c.r.numBits ∧ c1.r.bitBuf = c.r.bitBuf ∧ InvD c c1 ∧
      c1.r.lenCodes = c.r.lenCodes := by
  rw [step_ReadHufflenTableCodeSize hs]
  unfold stReadHufflenTableCodeSize
  have hlt : ¬ c.r.counter < c.r.tableSizes.getD 2 0 := by omega
  simp only [hlt, ↓reduceIte]
  unfold initTree
  simp only [hbt, ↓reduceIte, hvalid]
  exact ⟨_, rfl, rfl, rfl, rfl, rfl, rfl, rfl, rfl, ⟨rfl, ⟨rfl, rfl, rfl, rfl⟩, rfl, hbt.symm, rfl⟩, rfl⟩

/-- The first `acc.size` entries of the model's `len_codes` array are `acc`. -/
structure LensRep (c : Ctx) (acc : Array Nat) : Prop where
  cnt  : c.r.counter = acc.size
  pre  : ∀ i, i < acc.size → c.r.lenCodes[i]? = acc[i]?
  size : c.r.lenCodes.size = 512

theorem fillLens_prefix (val n : Nat) : ∀ (lc acc : Array Nat), (∀ i, i < acc.size → lc[i]? = acc[i]?) →
    acc.size + n ≤ lc.size →
    (∀ i, i < acc.size + n → (fillLens lc acc.size val n)[i]? = (acc ++ Array.replicate n val)[i]?) ∧
    (fillLens lc acc.size val n).size = lc.size := by
  induction n with
  | zero =>
    intro lc acc h _
    refine ⟨fun i hi => ?_, rfl⟩
    simp only [fillLens, Array.replicate_zero, Array.append_empty]
    exact h i (by omega)
  | succ n ih =>
    intro lc acc h hsz
    unfold fillLens
    have hpre := prefix_push h val (by omega)
    have := ih (lc.setIfInBounds acc.size val) (acc.push val) hpre (by simp; omega)
    simp only [Array.size_push, Array.size_setIfInBounds] at this
    refine ⟨fun i hi => ?_, this.2⟩
    rw [this.1 i (by omega)]
    congr 1
    rw [Array.push_eq_append, Array.append_assoc]
    congr 1
    simp [Array.replicate_succ']

theorem micro_rld_sym {pos s p : Nat} (hs : c.r.state = sReadLitlenDistTablesCodeSize)
    (hlt : c.r.counter < c.r.tableSizes.getD 0 0 + c.r.tableSizes.getD 1 0) (hr : Rep e.inp c pos)
    (hd : decodeSym c.r.clenCode e.inp pos = .sym s p) :
    ∃ c1, ReadOK e.inp c c1 ∧ Rep e.inp c1 p ∧ (c.r.numBits < 8 → c1.r.numBits < 8) ∧
      step e c outA =
        (if s < 16 then
          .cont { c1 with r := { c1.r with dist := s, lenCodes := c1.r.lenCodes.setIfInBounds (c1.r.counter % 512) s,
                                           counter := c1.r.counter + 1 } } outA
         else if s = 16 ∧ c1.r.counter = 0 then
          .cont (setState { c1 with r := { c1.r with dist := s } } sBadCodeSizeDistPrevLookup) outA
         else .cont (setState { c1 with r := { c1.r with dist := s, numExtra := [2, 3, 7, 0].getD ((s - 16) % 4) 0 } }
                  sReadExtraBitsCodeSize) outA) := by
  obtain ⟨c1, hdh, hr1, h8, hok⟩ := decodeHuff_full hr hd
  rw [step_ReadLitlenDistTablesCodeSize hs]
  unfold stReadLitlenDistTablesCodeSize
  simp only [hlt, ↓reduceIte]
  rw [hdh]
  exact ⟨c1, hok, hr1, h8, rfl⟩

theorem micro_rebcs {pos v : Nat} (hs : c.r.state = sReadExtraBitsCodeSize) (hr : Rep e.inp c pos)
    (hv : bitsAt e.inp pos c.r.numExtra = some v) :
    ∃ c1, ReadOK e.inp c c1 ∧ Rep e.inp c1 (pos + c.r.numExtra) ∧ (c.r.numBits < 8 → c1.r.numBits < 8) ∧
      step e c outA = .cont (setState { c1 with r := { c1.r with
          lenCodes := fillLens c1.r.lenCodes c1.r.counter
            (if c1.r.dist = 16 then c1.r.lenCodes.getD ((c1.r.counter - 1) % 512) 0 else 0)
            (v + [3, 3, 11].getD ((c1.r.dist - 16) % 4 / 2 * 2) 0),
          counter := c1.r.counter + (v + [3, 3, 11].getD ((c1.r.dist - 16) % 4 / 2 * 2) 0) } }
        sReadLitlenDistTablesCodeSize) outA := by
  obtain ⟨c1, hrb, hr1, h8, hok, _⟩ := readBits_full hr hv
  rw [step_ReadExtraBitsCodeSize hs]
  unfold stReadExtraBitsCodeSize
  rw [hrb]
  exact ⟨c1, hok, hr1, h8, rfl⟩

/-- The three repeat codes in the terms of the model's tables: code `s` reads `[2, 3, 7][s - 16]` extra bits `r` and
    appends `[3, 3, 11][s - 16] + r` copies of the previous length (16) or of zero (17, 18). -/
theorem readLenStep_repeat {cl : Code} {data : Array UInt8} {pos p s : Nat} {acc : Array Nat}
    (hd : decodeSym cl data pos = .sym s p) (h16 : ¬ s < 16) (hs19 : s < 19) :
    readLenStep cl data pos acc =
      if s = 16 ∧ acc.size = 0 then .reject .repeatNoPrev
      else match bitsAt data p ([2, 3, 7, 0].getD ((s - 16) % 4) 0) with
        | none => .truncated
        | some r => .more (p + [2, 3, 7, 0].getD ((s - 16) % 4) 0)
            (acc ++ Array.replicate ([3, 3, 11].getD ((s - 16) % 4 / 2 * 2) 0 + r)
              (if s = 16 then acc.getD (acc.size - 1) 0 else 0)) := by
  unfold readLenStep
  rw [hd]
  dsimp only
  rw [if_neg h16]
  obtain rfl | rfl | rfl : s = 16 ∨ s = 17 ∨ s = 18 := by omega
  · rw [if_pos rfl]
    by_cases hz : acc.size = 0
    · rw [if_pos hz, if_pos ⟨rfl, hz⟩]
    · rw [if_neg hz, if_neg (fun h => hz h.2)]; rfl
  · rw [if_neg (by decide), if_pos rfl, if_neg (fun h => absurd h.1 (by decide))]; rfl
  · rw [if_neg (by decide), if_neg (by decide), if_neg (fun h => absurd h.1 (by decide))]; rfl

theorem sim_lenStep {cl : Code} {pos p' : Nat} {acc acc' : Array Nat} {clens : Array Nat}
    (hs : c.r.state = sReadLitlenDistTablesCodeSize) (hcl : c.r.clenCode = cl) (hmk : cl = mkCode clens)
    (h19 : clens.size = 19)
    (hlt : c.r.counter < c.r.tableSizes.getD 0 0 + c.r.tableSizes.getD 1 0)
    (hrep : LensRep c acc) (hr : Rep e.inp c pos) (h8 : c.r.numBits < 8)
    (hstep : readLenStep cl e.inp pos acc = .more p' acc') (hsz : acc'.size ≤ 512) :
    ∃ c', Reaches e c outA c' outA ∧ c'.r.state = sReadLitlenDistTablesCodeSize ∧ LensRep c' acc' ∧
      Rep e.inp c' p' ∧ c'.r.numBits < 8 ∧ InvD c c' ∧ c'.r.tableSizes = c.r.tableSizes ∧
      c'.r.clenCode = c.r.clenCode := by
  cases hd : decodeSym cl e.inp pos with
  | short => simp [readLenStep, hd] at hstep
  | invalid => simp [readLenStep, hd] at hstep
  | sym s p =>
    have hs19 : s < 19 := h19 ▸ decodeSym_lt (lens := clens) (h19 ▸ Nat.zero_lt_succ 18) (hmk ▸ hd)
    obtain ⟨c1, hok, hr1, h81, hst⟩ := micro_rld_sym (outA := outA) hs hlt hr (by rw [hcl]; exact hd)
    have hreg := hok.regs
    have hcnt1 : c1.r.counter = acc.size := by rw [hreg]; exact hrep.cnt
    have hlc1 : c1.r.lenCodes = c.r.lenCodes := by rw [hreg]
    have i1 := InvD.of_read hok
    by_cases h16 : s < 16
    · -- a literal length
      simp only [readLenStep, hd, h16, ↓reduceIte, LenStep.more.injEq] at hstep
      rw [if_pos h16] at hst
      obtain ⟨hp, hacc⟩ := hstep
      subst hp; subst hacc
      rw [Array.size_push] at hsz
      refine ⟨_, Reaches.of_step hst, by show c1.r.state = _; rw [hreg]; exact hs, ⟨?_, ?_, ?_⟩,
        hr1.of_eq rfl rfl rfl, h81 h8, ⟨i1.finish, ⟨i1.z.z0, i1.z.z1, i1.z.zA, i1.z.chk⟩, i1.rh, i1.bt, i1.outPos⟩,
        by show c1.r.tableSizes = _; rw [hreg], by show c1.r.clenCode = _; rw [hreg]⟩
      · show c1.r.counter + 1 = _; rw [hcnt1, Array.size_push]
      · show ∀ i, i < (acc.push s).size → (c1.r.lenCodes.setIfInBounds (c1.r.counter % 512) s)[i]? = _
        rw [hcnt1, hlc1, Nat.mod_eq_of_lt (Nat.lt_of_succ_le hsz)]
        exact prefix_push hrep.pre s (by rw [hrep.size]; exact Nat.lt_of_succ_le hsz)
      · show (c1.r.lenCodes.setIfInBounds _ _).size = 512
        rw [Array.size_setIfInBounds, hlc1]; exact hrep.size
    · -- a repeat code: a second transition reads the extra bits
      rw [readLenStep_repeat hd h16 hs19] at hstep
      generalize hnx : [2, 3, 7, 0].getD ((s - 16) % 4) 0 = nx at hstep
      generalize hbase : [3, 3, 11].getD ((s - 16) % 4 / 2 * 2) 0 = base at hstep
      generalize hval : (if s = 16 then acc.getD (acc.size - 1) 0 else 0) = val at hstep
      have hnz : ¬ (s = 16 ∧ acc.size = 0) := fun h => by rw [if_pos h] at hstep; cases hstep
      rw [if_neg hnz] at hstep
      cases hb : bitsAt e.inp p nx with
      | none => rw [hb] at hstep; cases hstep
      | some r =>
      rw [hb] at hstep
      obtain ⟨hp', hacc'⟩ := LenStep.more.inj hstep
      have hbad : ¬ (s = 16 ∧ c1.r.counter = 0) := by rw [hcnt1]; exact hnz
      rw [if_neg h16, if_neg hbad] at hst
      obtain ⟨c2, hok2, hr2, h82, hst2⟩ := micro_rebcs (outA := outA)
        (c := setState { c1 with r := { c1.r with dist := s, numExtra := [2, 3, 7, 0].getD ((s - 16) % 4) 0 } }
          sReadExtraBitsCodeSize) (pos := p) (v := r) rfl (hr1.of_eq rfl rfl rfl) (hnx ▸ hb)
      have hreg2 := hok2.regs
      have hcnt2 : c2.r.counter = acc.size := by rw [hreg2]; exact hcnt1
      have hlc2 : c2.r.lenCodes = c.r.lenCodes := by rw [hreg2]; exact hlc1
      have hdist2 : c2.r.dist = s := by rw [hreg2]; rfl
      have i2 := InvD.of_read hok2
      rw [← hacc', Array.size_append, Array.size_replicate] at hsz
      have hfill := fillLens_prefix val (base + r) c.r.lenCodes acc hrep.pre (by rw [hrep.size]; exact hsz)
      have hvaleq : (if c2.r.dist = 16 then c2.r.lenCodes.getD ((c2.r.counter - 1) % 512) 0 else 0) = val := by
        rw [hdist2, ← hval, hlc2, hcnt2]
        by_cases e16 : s = 16
        · have hpos : 0 < acc.size := Nat.pos_of_ne_zero fun h => hnz ⟨e16, h⟩
          have hlt512 : acc.size - 1 < 512 := Nat.lt_of_lt_of_le (Nat.sub_lt hpos Nat.one_pos) (Nat.le_trans (Nat.le_add_right _ _) hsz)
          rw [if_pos e16, if_pos e16, Nat.mod_eq_of_lt hlt512, Array.getD_eq_getD_getElem?, Array.getD_eq_getD_getElem?,
            hrep.pre (acc.size - 1) (Nat.sub_lt hpos Nat.one_pos)]
        · rw [if_neg e16, if_neg e16]
      have hcount : r + [3, 3, 11].getD ((c2.r.dist - 16) % 4 / 2 * 2) 0 = base + r := by
        rw [hdist2, hbase, Nat.add_comm]
      rw [hvaleq, hcount, hlc2, hcnt2] at hst2
      refine ⟨_, (Reaches.of_step hst).trans (Reaches.of_step hst2), rfl, ⟨?_, ?_, hfill.2.trans hrep.size⟩,
        by rw [← hp', ← hnx]; exact hr2.of_eq rfl rfl rfl, h82 (h81 h8),
        ⟨i2.finish.trans i1.finish, ⟨i2.z.z0.trans i1.z.z0, i2.z.z1.trans i1.z.z1, i2.z.zA.trans i1.z.zA,
          i2.z.chk.trans i1.z.chk⟩, i2.rh.trans i1.rh, i2.bt.trans i1.bt, i2.outPos.trans i1.outPos⟩,
        by show c2.r.tableSizes = _; rw [hreg2]; show c1.r.tableSizes = _; rw [hreg],
        by show c2.r.clenCode = _; rw [hreg2]; show c1.r.clenCode = _; rw [hreg]⟩
      · show acc.size + (base + r) = _; rw [← hacc', Array.size_append, Array.size_replicate]
      · intro i hi
        rw [← hacc'] at hi ⊢
        rw [Array.size_append, Array.size_replicate] at hi
        exact hfill.1 i hi

theorem readLens_size_le (cl : Code) (data : Array UInt8) (total : Nat) : ∀ (fuel pos : Nat) (acc : Array Nat)
    (R : Nat × Array Nat), readLens cl data total fuel pos acc = .accept R → acc.size ≤ total := by
  intro fuel pos acc R h
  cases fuel with
  | zero => simp [readLens] at h
  | succ fuel =>
    rw [readLens] at h
    by_cases h1 : acc.size = total
    · omega
    · by_cases h2 : acc.size > total
      · simp [h1, h2] at h
      · omega

theorem sim_lens {cl : Code} {clens : Array Nat} (hmk : cl = mkCode clens) (h19 : clens.size = 19) (total : Nat)
    (htot : total ≤ 512) :
    ∀ (fuel pos : Nat) (acc : Array Nat) (c : Ctx) (R : Nat × Array Nat),
    readLens cl e.inp total fuel pos acc = .accept R →
    c.r.state = sReadLitlenDistTablesCodeSize → c.r.clenCode = cl →
    c.r.tableSizes.getD 0 0 + c.r.tableSizes.getD 1 0 = total →
    LensRep c acc → Rep e.inp c pos → c.r.numBits < 8 →
    ∃ c', Reaches e c outA c' outA ∧ c'.r.state = sReadLitlenDistTablesCodeSize ∧ LensRep c' R.2 ∧
      R.2.size = total ∧ Rep e.inp c' R.1 ∧ c'.r.numBits < 8 ∧ InvD c c' ∧ c'.r.tableSizes = c.r.tableSizes := by
  intro fuel
  induction fuel with
  | zero => intro pos acc c R h; simp [readLens] at h
  | succ fuel ih =>
    intro pos acc c R h hs hcl hts hrep hr h8
    rw [readLens] at h
    by_cases h1 : acc.size = total
    · simp only [h1, ↓reduceIte, Verdict.accept.injEq] at h
      rw [← h]
      exact ⟨c, Reaches.refl _ _ _, hs, hrep, h1, hr, h8, InvD.refl c, rfl⟩
    · simp only [h1, ↓reduceIte] at h
      by_cases h2 : acc.size > total
      · simp [h2] at h
      · simp only [h2, ↓reduceIte] at h
        cases hst : readLenStep cl e.inp pos acc with
        | more p' acc' =>
          rw [hst] at h
          have hle := readLens_size_le cl e.inp total _ _ _ _ h
          obtain ⟨c1, r1, hs1, hrep1, hr1, h81, i1, ht1, hcc1⟩ :=
            sim_lenStep (outA := outA) hs hcl hmk h19 (by rw [hts, hrep.cnt]; omega) hrep hr h8 hst (by omega)
          obtain ⟨c', r', hs', hrep', hsz', hr', h8', i', ht'⟩ :=
            ih p' acc' c1 R h hs1 (by rw [hcc1, hcl]) (by rw [ht1]; exact hts) hrep1 hr1 h81
          exact ⟨c', r1.trans r', hs', hrep', hsz', hr', h8', i1.trans i', by rw [ht', ht1]⟩
        | reject w => rw [hst] at h; simp at h
        | truncated => rw [hst] at h; simp at h

theorem micro_rld_done {litLens distLens : Array Nat} (hs : c.r.state = sReadLitlenDistTablesCodeSize)
    (hc : c.r.counter = c.r.tableSizes.getD 0 0 + c.r.tableSizes.getD 1 0) (hbt : c.r.blockType = 2)
    (hl : c.r.lenCodes.extract 0 (c.r.tableSizes.getD 0 0) = litLens)
    (hd : c.r.lenCodes.extract (c.r.tableSizes.getD 0 0) (c.r.tableSizes.getD 0 0 + c.r.tableSizes.getD 1 0) = distLens)
    (hvl : codeValid .litlen litLens = true) (hvd : codeValid .dist distLens = true) :
    ∃ c1, step e c outA = .cont c1 outA ∧ c1.r.state = sDecodeLitlen ∧
      c1.r.litCode = mkCode litLens ∧ c1.r.distCode = mkCode distLens ∧
      c1.inPos = c.inPos ∧ c1.r.numBits = c.r.numBits ∧ c1.r.bitBuf = c.r.bitBuf ∧ c1.outPos = c.outPos ∧
      c1.r.finish = c.r.finish ∧ InvZ c c1 ∧ c1.r.rawHeader = c.r.rawHeader ∧
      c1.r.tableSizes = c.r.tableSizes ∧ c1.r.lenCodes = c.r.lenCodes := by
  rw [step_ReadLitlenDistTablesCodeSize hs]
  unfold stReadLitlenDistTablesCodeSize
  have hlt : ¬ c.r.counter < c.r.tableSizes.getD 0 0 + c.r.tableSizes.getD 1 0 := by omega
  have hne : ¬ c.r.counter ≠ c.r.tableSizes.getD 0 0 + c.r.tableSizes.getD 1 0 := by omega
  simp only [hlt, ↓reduceIte, hne, hl, hd]
  unfold initTree
  simp only [hbt, Nat.add_one_sub_one, ↓reduceIte, hvl, hvd, Bool.not_true, Bool.false_eq_true, Nat.reduceEqDiff]
  exact ⟨_, rfl, rfl, rfl, rfl, rfl, rfl, rfl, rfl, rfl, ⟨rfl, rfl, rfl, rfl⟩, rfl, rfl, rfl⟩

theorem bitAt_le_one {data : Array UInt8} {p b : Nat} (h : bitAt data p = some b) : b ≤ 1 := by
  unfold bitAt at h
  cases hg : data[p / 8]? with
  | none => simp [hg] at h
  | some x =>
    simp only [hg, Option.some.injEq] at h
    omega

theorem bitsAt_lt (data : Array UInt8) (n : Nat) : ∀ (pos v : Nat), bitsAt data pos n = some v → v < 2 ^ n := by
  induction n with
  | zero => intro pos v h; simp [bitsAt] at h; omega
  | succ n ih =>
    intro pos v h
    unfold bitsAt at h
    cases hb : bitAt data pos with
    | none => simp [hb] at h
    | some b =>
      cases hr : bitsAt data (pos + 1) n with
      | none => simp [hb, hr] at h
      | some r =>
        simp only [hb, hr, Option.some.injEq] at h
        have := ih _ _ hr
        have := bitAt_le_one hb
        rw [Nat.pow_succ]; omega

theorem readClens_size (data : Array UInt8) : ∀ (n pos : Nat) (order : List Nat) (acc : Array Nat) (pos' : Nat)
    (acc' : Array Nat), readClens data n pos order acc = some (pos', acc') → acc'.size = acc.size := by
  intro n
  induction n with
  | zero => intro pos order acc pos' acc' h; cases (readClens_zero _ _ _ _).symm.trans h; rfl
  | succ n ih =>
    intro pos order acc pos' acc' h
    cases order with
    | nil => cases (readClens_nil _ _ _ _).symm.trans h; rfl
    | cons o os =>
      rw [readClens_cons] at h
      cases hv : bitsAt data pos 3 with
      | none => rw [hv] at h; cases h
      | some v =>
        rw [hv] at h
        exact (ih _ _ _ _ _ h).trans Array.size_setIfInBounds

theorem extract_of_prefix {lc lens : Array Nat} (hpre : ∀ i, i < lens.size → lc[i]? = lens[i]?)
    (hsz : lens.size ≤ lc.size) (a b : Nat) (hb : b ≤ lens.size) : lc.extract a b = lens.extract a b := by
  apply Array.ext_getElem?
  intro i
  rw [Array.getElem?_extract, Array.getElem?_extract]
  have e1 : min b lc.size = b := by omega
  have e2 : min b lens.size = b := by omega
  rw [e1, e2]
  by_cases h : i < b - a
  · simp only [h, ↓reduceIte]; exact hpre (a + i) (by omega)
  · simp only [h, ↓reduceIte]

/-! The dynamic block header, from `ReadTableSizes` (just behind the 3 header bits) as far as the specification reads it. -/
section header
variable {pos hlit hdist hclen p1 p2 fuel : Nat} {clens lens : Array Nat}
  (hs : c.r.state = sReadTableSizes) (hc : c.r.counter = 0) (hbt : c.r.blockType = 2)
  (hts : c.r.tableSizes.size = 3) (hlc : c.r.lenCodes.size = 512) (hr : Rep e.inp c pos) (h8 : c.r.numBits < 8)
  (h1 : bitsAt e.inp pos 5 = some hlit) (h2 : bitsAt e.inp (pos + 5) 5 = some hdist)
  (h3 : bitsAt e.inp (pos + 10) 4 = some hclen) (hok : ¬ (hlit + 257 > 286 ∨ hdist + 1 > 30))
  (hcl : readClens e.inp (hclen + 4) (pos + 14) clenOrder (Array.replicate 19 0) = some (p1, clens))
include hs hc hbt hts hlc hr h8 h1 h2 h3 hok hcl

/-- … to the lengths of the code-length code. -/
theorem sim_dyn_clens : ∃ c5, Reaches e c outA c5 outA ∧ c5.r.state = sReadHufflenTableCodeSize ∧
    c5.r.counter = c5.r.tableSizes.getD 2 0 ∧ c5.r.blockType = 2 ∧ c5.r.clenLens = clens ∧
    c5.r.tableSizes = #[hlit + 257, hdist + 1, hclen + 4] ∧ Rep e.inp c5 p1 ∧ c5.r.numBits < 8 ∧ InvD c c5 ∧
    c5.r.lenCodes.size = 512 ∧ clens.size = 19 := by
  have hclen19 : 0 + (hclen + 4) ≤ 19 := by have := bitsAt_lt _ _ _ _ h3; omega
  obtain ⟨c4, r4, hs4, hc4, ht4, hcl4, hr4, h84, i4, l4⟩ := sim_tableSizes (outA := outA) hs hc hts hr h8 h1 h2 h3 hok
  obtain ⟨c5, r5, hs5, hc5, hcl5, ht5, hr5, h85, i5, l5⟩ :=
    sim_clens (e := e) (outA := outA) (hclen + 4) 0 (pos + 14) (Array.replicate 19 0) c4 p1 clens hs4 hc4
      (by rw [ht4, Nat.zero_add]; rfl) hclen19 hcl4 hr4 h84 hcl
  exact ⟨c5, r4.trans r5, hs5, by rw [hc5, ht5, ht4, Nat.zero_add]; rfl, by rw [i5.bt, i4.bt]; exact hbt, hcl5,
    ht5.trans ht4, hr5, h85, i4.trans i5, by rw [l5, l4]; exact hlc,
    (readClens_size _ _ _ _ _ _ _ hcl).trans Array.size_replicate⟩

variable (hclv : codeValid .clen clens = true)
include hclv

/-- … to the code-length code. -/
theorem sim_dyn_clenCode : ∃ c6, Reaches e c outA c6 outA ∧ c6.r.state = sReadLitlenDistTablesCodeSize ∧
    c6.r.clenCode = mkCode clens ∧ c6.r.tableSizes = #[hlit + 257, hdist + 1, 19] ∧ c6.r.blockType = 2 ∧
    LensRep c6 #[] ∧ Rep e.inp c6 p1 ∧ c6.r.numBits < 8 ∧ InvD c c6 ∧ clens.size = 19 := by
  obtain ⟨c5, r5, hs5, hc5, hbt5, hcl5, ht5, hr5, h85, i5, l5, hsz19⟩ :=
    sim_dyn_clens (outA := outA) hs hc hbt hts hlc hr h8 h1 h2 h3 hok hcl
  obtain ⟨c6, st6, hs6, hc6, hcc6, ht6, hi6, hn6, hb6, i6, l6⟩ :=
    micro_hufflen_done (e := e) (c := c5) (outA := outA) hs5 hc5 hbt5 (by rw [hcl5]; exact hclv)
  exact ⟨c6, r5.trans (Reaches.of_step st6), hs6, by rw [hcc6, hcl5], by rw [ht6, ht5]; rfl, by rw [i6.bt]; exact hbt5,
    ⟨hc6, fun i hi => absurd hi (Nat.not_lt_zero i), by rw [l6]; exact l5⟩, hr5.of_eq hi6 hn6 hb6, by rw [hn6]; exact h85,
    i5.trans i6, hsz19⟩

variable (hlens : readLens (mkCode clens) e.inp (hlit + 257 + (hdist + 1)) fuel p1 #[] = .accept (p2, lens))
include hlens

/-- … to the code lengths of the literal/length and the distance code. -/
theorem sim_dyn_lens : ∃ c7, Reaches e c outA c7 outA ∧ c7.r.state = sReadLitlenDistTablesCodeSize ∧
    c7.r.counter = c7.r.tableSizes.getD 0 0 + c7.r.tableSizes.getD 1 0 ∧ c7.r.blockType = 2 ∧
    c7.r.lenCodes.extract 0 (c7.r.tableSizes.getD 0 0) = lens.extract 0 (hlit + 257) ∧
    c7.r.lenCodes.extract (c7.r.tableSizes.getD 0 0) (c7.r.tableSizes.getD 0 0 + c7.r.tableSizes.getD 1 0) =
      lens.extract (hlit + 257) (hlit + 257 + (hdist + 1)) ∧
    Rep e.inp c7 p2 ∧ c7.r.numBits < 8 ∧ InvD c c7 ∧ c7.r.tableSizes.size = 3 ∧ c7.r.lenCodes.size = 512 ∧
    lens.size = hlit + 257 + (hdist + 1) := by
  have htot : hlit + 257 + (hdist + 1) ≤ 512 := by omega
  obtain ⟨c6, r6, hs6, hcc6, hts6, hbt6, hrep6, hr6, h86, i6, hsz19⟩ :=
    sim_dyn_clenCode (outA := outA) hs hc hbt hts hlc hr h8 h1 h2 h3 hok hcl hclv
  obtain ⟨c7, r7, hs7, hrep7, hsz7, hr7, h87, i7, ht7⟩ :=
    sim_lens (e := e) (outA := outA) (cl := mkCode clens) (clens := clens) rfl hsz19 (hlit + 257 + (hdist + 1)) htot
      fuel p1 #[] c6 (p2, lens) hlens hs6 hcc6 (by rw [hts6]; rfl) hrep6 hr6 h86
  have hts7 : c7.r.tableSizes = #[hlit + 257, hdist + 1, 19] := ht7.trans hts6
  have g0 : c7.r.tableSizes.getD 0 0 = hlit + 257 := by rw [hts7]; rfl
  have g1 : c7.r.tableSizes.getD 1 0 = hdist + 1 := by rw [hts7]; rfl
  have hle : lens.size ≤ c7.r.lenCodes.size := by rw [hrep7.size, hsz7]; exact htot
  exact ⟨c7, r6.trans r7, hs7, by rw [g0, g1, hrep7.cnt, hsz7], by rw [i7.bt]; exact hbt6,
    by rw [g0]; exact extract_of_prefix hrep7.pre hle _ _ (hsz7 ▸ Nat.le_add_right _ _),
    by rw [g0, g1]; exact extract_of_prefix hrep7.pre hle _ _ (Nat.le_of_eq hsz7.symm),
    hr7, h87, i6.trans i7, by rw [hts7]; rfl, hrep7.size, hsz7⟩

variable (hvl : codeValid .litlen (lens.extract 0 (hlit + 257)) = true)
  (hvd : codeValid .dist (lens.extract (hlit + 257) (hlit + 257 + (hdist + 1))) = true)
include hvl hvd

/-- THE DYNAMIC BLOCK HEADER: … to `DecodeLitlen` with the two Huffman codes the specification builds. -/
theorem sim_dynamic_header : ∃ c', Reaches e c outA c' outA ∧ c'.r.state = sDecodeLitlen ∧
    c'.r.litCode = mkCode (lens.extract 0 (hlit + 257)) ∧
    c'.r.distCode = mkCode (lens.extract (hlit + 257) (hlit + 257 + (hdist + 1))) ∧
    Rep e.inp c' p2 ∧ c'.r.numBits < 8 ∧ c'.outPos = c.outPos ∧ c'.r.finish = c.r.finish ∧ InvZ c c' ∧
    c'.r.rawHeader = c.r.rawHeader ∧ c'.r.tableSizes.size = 3 ∧ c'.r.lenCodes.size = 512 ∧
    lens.size = hlit + 257 + (hdist + 1) := by
  obtain ⟨c7, r7, hs7, hcnt7, hbt7, hex0, hex1, hr7, h87, i7, hts7, hlc7, hsz7⟩ :=
    sim_dyn_lens (outA := outA) hs hc hbt hts hlc hr h8 h1 h2 h3 hok hcl hclv hlens
  obtain ⟨c8, st8, hs8, hlit8, hdist8, hi8, hn8, hb8, ho8, hf8, z8, rh8, ts8, lc8⟩ :=
    micro_rld_done (e := e) (c := c7) (outA := outA) hs7 hcnt7 hbt7 hex0 hex1 hvl hvd
  exact ⟨c8, r7.trans (Reaches.of_step st8), hs8, hlit8, hdist8, hr7.of_eq hi8 hn8 hb8, by rw [hn8]; exact h87,
    by rw [ho8, i7.outPos], by rw [hf8, i7.finish], i7.z.trans z8, by rw [rh8, i7.rh], by rw [ts8]; exact hts7,
    by rw [lc8]; exact hlc7, hsz7⟩

end header

/-- ONE BLOCK: whenever the specification accepts a block, the model goes from `ReadBlockHeader`
    to `BlockDone` with the specification's output and position; its `finish` register holds the
    block's BFINAL bit. -/
theorem sim_block (hflat : e.ring = false) (hend : e.outEnd ≤ e.outLen) {pre : Array UInt8} {maxDist fuel pos : Nat}
    {o : Array UInt8} {pos' : Nat} {o' : Array UInt8} {info : BlockInfo}
    (h : inflateBlock pre maxDist e.inp fuel pos o = .accept (pos', o', info))
    (hs : c.r.state = sReadBlockHeader) (hsim : Sim e c outA pos (pre ++ o)) (hsh : Shape c)
    (hroom : pre.size + o'.size ≤ e.outEnd) :
    ∃ c' outA', Reaches e c outA c' outA' ∧ c'.r.state = sBlockDone ∧ Sim e c' outA' pos' (pre ++ o') ∧
      (c'.r.finish ≠ 0 ↔ info.final = true) ∧ InvZ c c' ∧ Shape c' := by
  cases hv : bitsAt e.inp pos 3 with
  | none => rw [inflateBlock_short hv] at h; cases h
  | some hdr =>
  have hsim' : ∀ {c1 : Ctx} {p : Nat}, Rep e.inp c1 p → c1.r.numBits < 8 → c1.outPos = c.outPos →
      Sim e c1 outA p (pre ++ o) :=
    fun hr1 h81 ho1 => ⟨hr1, h81, ho1.trans hsim.outPos, hsim.outEq, hsim.size⟩
  have hfin : ∀ f : Nat, f = hdr % 2 → (f ≠ 0 ↔ decide (hdr % 2 = 1) = true) := by
    intro f hf; rw [hf, decide_eq_true_iff]; omega
  revert h
  refine inflateBlock_cases (motive := fun v => v = _ → _) hv (fun _ _ => nofun) (fun _ _ _ _ _ _ => nofun)
    (fun _ _ _ _ _ _ _ => nofun) (fun len nlen o2 hbt hl hn hchk hcp h => ?_) (fun hbt h => ?_) (fun _ _ => nofun)
    (fun _ _ _ _ _ _ _ _ => nofun) (fun _ _ _ _ _ _ _ _ _ => nofun) (fun _ _ _ _ _ _ _ _ _ _ _ _ => nofun)
    (fun _ _ _ _ _ _ _ _ _ _ _ _ hna h => absurd h (Verdict.stop_ne_accept hna)) (fun _ _ _ _ _ _ _ _ _ _ _ _ _ _ _ _ => nofun)
    (fun hlit hdist hclen p1 clens p2 lens hbt h1 h2 h3 hbig hcl hclv hlens hvl hvd h => ?_) (fun _ => nofun)
  · -- stored
    cases h
    obtain ⟨c1, st1, hs1, hf1, hr1, h81, ho1, z1, sh1⟩ := micro_header_stored (outA := outA) hs hsim.rep hv hbt
    obtain ⟨c', outA', r', hs', hsim', hf', z', rh', ts', lc'⟩ :=
      sim_stored hend hs1 (hsim' hr1 (h81 hsim.nb8) ho1) (sh1 hsh).1 hl hn hchk
        (copyStored_append e.inp pre len _ o _ hcp) (by rw [Array.size_append]; exact hroom)
    exact ⟨c', outA', (Reaches.of_step st1).trans r', hs', hsim', hfin _ (hf'.trans hf1), z1.trans z',
      rh', by rw [ts']; exact (sh1 hsh).2.1, by rw [lc']; exact (sh1 hsh).2.2⟩
  · -- fixed Huffman
    obtain ⟨⟨p, o2, toks⟩, ht, hR⟩ := Verdict.map_accept h
    cases hR
    obtain ⟨c1, st1, hs1, hf1, hl1, hd1, hr1, h81, ho1, z1, sh1⟩ := micro_header_fixed (outA := outA) hs hsim.rep hv hbt
    obtain ⟨c', outA', r', hs', hsim', i'⟩ :=
      sim_tokens hflat hend pre maxDist fixedLitCode fixedDistCode fuel (pos + 3) o #[] _ c1 outA
        ht (hsim' hr1 (h81 hsim.nb8) ho1) hs1 hl1 hd1 hroom
    exact ⟨c', outA', (Reaches.of_step st1).trans r', hs', hsim', hfin _ (i'.finish.trans hf1), z1.trans (InvZ.of_inv i'),
      by rw [i'.rh]; exact (sh1 hsh).1, by rw [i'.ts]; exact (sh1 hsh).2.1, by rw [i'.lc]; exact (sh1 hsh).2.2⟩
  · -- dynamic Huffman
    obtain ⟨⟨p, o2, toks⟩, ht, hR⟩ := Verdict.map_accept h
    cases hR
    obtain ⟨c1, st1, hs1, hf1, hc1, hbt1, hr1, h81, ho1, z1, sh1⟩ := micro_header_dynamic (outA := outA) hs hsim.rep hv hbt
    obtain ⟨c2, r2, hs2, hl2, hd2, hr2, h82, ho2, hf2, z2, rh2, ts2, lc2, _⟩ :=
      sim_dynamic_header (outA := outA) hs1 hc1 hbt1 (sh1 hsh).2.1 (sh1 hsh).2.2 hr1 (h81 hsim.nb8) h1 h2 h3 hbig hcl hclv
        hlens hvl hvd
    obtain ⟨c', outA', r', hs', hsim', i'⟩ :=
      sim_tokens hflat hend pre maxDist _ _ fuel p2 o #[] _ c2 outA
        ht (hsim' hr2 h82 (ho2.trans ho1)) hs2 hl2 hd2 hroom
    exact ⟨c', outA', (Reaches.of_step st1).trans (r2.trans r'), hs', hsim', hfin _ (i'.finish.trans (hf2.trans hf1)),
      z1.trans (z2.trans (InvZ.of_inv i')),
      by rw [i'.rh, rh2]; exact (sh1 hsh).1, by rw [i'.ts]; exact ts2, by rw [i'.lc]; exact lc2⟩

end Model.Core
