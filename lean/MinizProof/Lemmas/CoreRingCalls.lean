/-
One call of `Model.Core.decompress` into a ring buffer against the same call into a flat buffer
(`Lemmas/CoreRing` lifted through the epilogue), and the hand-back of a full ring to its start.
No property statements here (see Props/C07, C03).
-/
import MinizProof.Lemmas.CoreRing
import MinizProof.Lemmas.CoreSession
namespace Model.Core
open Spec

structure FlagsRF (flagsR flagsF : Nat) : Prop where
  ring  : hasFlag flagsR fNonWrapping = false
  flat  : hasFlag flagsF fNonWrapping = true
  zlib  : hasFlag flagsF fParseZlib = hasFlag flagsR fParseZlib
  more  : hasFlag flagsF fHasMoreInput = hasFlag flagsR fHasMoreInput
  comp  : hasFlag flagsF fComputeAdler = hasFlag flagsR fComputeAdler
  ign   : hasFlag flagsF fIgnoreAdler = hasFlag flagsR fIgnoreAdler
  stop  : hasFlag flagsF fStopOnBlockBoundary = hasFlag flagsR fStopOnBlockBoundary

theorem FlagsRF.needAdler {fr ff : Nat} (h : FlagsRF fr ff) : needAdler ff = needAdler fr := by
  unfold Model.Core.needAdler; rw [h.ign, h.zlib, h.comp]

theorem FlagsRF.eoi {fr ff : Nat} (h : FlagsRF fr ff) : endOfInput ff = endOfInput fr := by
  unfold endOfInput; rw [h.more]

/-- a full ring handed back to its start: what was the current lap is now the previous one -/
theorem RingRel.handBack {W base : Nat} {oR oF : Array UInt8} (h : RingRel W base W oR oF) :
    RingRel W (base + W) 0 oR oF := by
  obtain ⟨hs, h1, _⟩ := h
  refine ⟨hs, fun i hi => absurd hi (Nat.not_lt_zero _), fun i _ hiW _ => ?_⟩
  rw [Nat.add_right_comm, Nat.add_sub_cancel]
  exact h1 i hiW

theorem extract_ring {W base p p' : Nat} {oR oF : Array UInt8} (h : RingRel W base p' oR oF) (hp : p' ≤ W)
    (hF : base + p' ≤ oF.size) : oR.extract p p' = oF.extract (base + p) (base + p') := by
  apply Array.ext_getElem?
  intro i
  rw [Array.getElem?_extract, Array.getElem?_extract, Nat.min_eq_left (h.1 ▸ hp : p' ≤ oR.size), Nat.min_eq_left hF,
    Nat.add_sub_add_left]
  by_cases hi : i < p' - p
  · rw [if_pos hi, if_pos hi, Nat.add_assoc]
    exact h.2.1 (p + i) (Nat.add_lt_of_lt_sub' hi)
  · rw [if_neg hi, if_neg hi]

theorem beq_add_left (a b c : Nat) : (a + b == a + c) = (b == c) := by
  by_cases h : b = c
  · subst h; simp
  · have : a + b ≠ a + c := by omega
    rw [beq_false_of_ne h, beq_false_of_ne this]

theorem epilogue_ring {fr ff : Nat} (h : FlagsRF fr ff) (base p E : Nat) (st : Int) (c : Ctx) (oR oF : Array UInt8)
    (hext : oR.extract p c.outPos = oF.extract (base + p) (base + c.outPos)) :
    (epilogue fr p E st c oR).status = (epilogue ff (base + p) (base + E) st (U base c) oF).status ∧
    (epilogue fr p E st c oR).consumed = (epilogue ff (base + p) (base + E) st (U base c) oF).consumed ∧
    (epilogue fr p E st c oR).written = (epilogue ff (base + p) (base + E) st (U base c) oF).written ∧
    (epilogue fr p E st c oR).r = (epilogue ff (base + p) (base + E) st (U base c) oF).r ∧
    (epilogue fr p E st c oR).out = oR ∧ (epilogue ff (base + p) (base + E) st (U base c) oF).out = oF ∧
    (epilogue fr p E st c oR).written = c.outPos - p := by
  have hexitS : exitStatus st (U base c) (base + E) = exitStatus st c E := by
    unfold exitStatus
    show (if (st == stNeedsMoreInput && (base + c.outPos == base + E) && _) = true then _ else _) = _
    rw [beq_add_left]
    rfl
  refine ⟨?_, ?_, ?_, ?_, epilogue_out .., epilogue_out .., epilogue_written ..⟩
  · rw [epilogue_status_eq, epilogue_status_eq, hexitS, h.needAdler, h.zlib]
    dsimp only
    rw [← hext]; rfl
  · rw [epilogue_consumed, epilogue_consumed]; rfl
  · rw [epilogue_written, epilogue_written]; exact (Nat.add_sub_add_left ..).symm
  · rw [epilogue_r, epilogue_r, hexitS, h.needAdler]
    dsimp only
    rw [← hext]; rfl

/-- the end of the flat call's window, granted what is left of the lap, against the end of the ring call's -/
theorem ring_window {base p budget W n : Nat} (hp : p ≤ W) (hb : base + W ≤ n) :
    min (base + p + min budget (W - p)) n = base + min (p + budget) W := by
  have e : p + min budget (W - p) = min (p + budget) W := by rw [← Nat.add_min_add_left, Nat.add_sub_cancel' hp]
  rw [Nat.add_assoc, e, Nat.min_eq_left (Nat.le_trans (Nat.add_le_add_left (Nat.min_le_right _ _) _) hb)]

/-- ONE CALL, RING AGAINST FLAT. The ring (size `W ≥ 32768`, write cursor `p`) holds the last `W`
    bytes of the flat buffer up to `base + p`. Unless the flat call reports `Failed` (a distance that
    reaches before the start of the data is something a ring cannot notice), both calls report the same
    status and counts, save the same registers, and the ring again holds the last `W` bytes of the
    flat buffer. -/
theorem decompress_ring_flat (r : Regs) (inp oR oF : Array UInt8) (p budget flagsR flagsF W base : Nat)
    (hb : Bnd r) (hfl : FlagsRF flagsR flagsF) (hW : oR.size = W) (hbig : 32768 ≤ W)
    (hgR : badGeometry flagsR oR.size p = false) (hbase : base + W ≤ oF.size)
    (hrel : RingRel W base p oR oF)
    (hno : (decompress r inp oF (base + p) (min budget (W - p)) flagsF).status ≠ stFailed) :
    (decompress r inp oR p budget flagsR).status = (decompress r inp oF (base + p) (min budget (W - p)) flagsF).status ∧
    (decompress r inp oR p budget flagsR).consumed = (decompress r inp oF (base + p) (min budget (W - p)) flagsF).consumed ∧
    (decompress r inp oR p budget flagsR).written = (decompress r inp oF (base + p) (min budget (W - p)) flagsF).written ∧
    (decompress r inp oR p budget flagsR).r = (decompress r inp oF (base + p) (min budget (W - p)) flagsF).r ∧
    RingRel W base (p + (decompress r inp oR p budget flagsR).written) (decompress r inp oR p budget flagsR).out
      (decompress r inp oF (base + p) (min budget (W - p)) flagsF).out := by
  have hpW : p ≤ W := hW ▸ (badGeometry_false.mp hgR).2
  have hgF : badGeometry flagsF oF.size (base + p) = false := badGeometry_flat hfl.flat (Nat.le_trans (Nat.add_le_add_left hpW base) hbase)
  have hEF : min (base + p + min budget (W - p)) oF.size = base + min (p + budget) oR.size := by rw [hW]; exact ring_window hpW hbase
  have hrf : RingFlat (callEnv inp oR p budget flagsR) (callEnv inp oF (base + p) (min budget (W - p)) flagsF) W base :=
    { inp := rfl, zlib := hfl.zlib, stop := hfl.stop, eoi := hfl.eoi,
      ringR := by show (!hasFlag flagsR fNonWrapping) = true; rw [hfl.ring]; rfl,
      ringF := by show (!hasFlag flagsF fNonWrapping) = false; rw [hfl.flat]; rfl,
      lenR := hW, endF := hEF, big := hbig }
  rw [decompress_eq r inp oF (base + p) (min budget (W - p)) flagsF hgF] at hno ⊢
  rw [decompress_eq r inp oR p budget flagsR hgR]
  -- the flat run is the run of the ring call's fuel from the shifted context
  have hrunF : callRun r inp oF (base + p) (min budget (W - p)) flagsF =
      run (callEnv inp oF (base + p) (min budget (W - p)) flagsF) (callFuel r inp (min (p + budget) oR.size - p))
        (U base { r := r, inPos := 0, outPos := p }) oF := by
    unfold callRun
    rw [hEF, Nat.add_sub_add_left]
  have hneF := callRun_ne r inp oF (base + p) (min budget (W - p)) flagsF hgF
  have hnfF : (callRun r inp oF (base + p) (min budget (W - p)) flagsF).1 ≠ stFailed :=
    fun hh => hno (by rw [hh]; exact epilogue_failed _ _ _ _ _)
  have hszF : (callRun r inp oF (base + p) (min budget (W - p)) flagsF).2.2.size = oF.size :=
    (callRun_adv r inp oF (base + p) (min budget (W - p)) flagsF hgF).frame.1
  have hadvR := callRun_adv r inp oR p budget flagsR hgR
  rw [hrunF] at hneF hnfF
  have hmain := run_ring hrf (hW ▸ Nat.min_le_right _ _ : min (p + budget) oR.size ≤ W)
    (callFuel r inp (min (p + budget) oR.size - p)) { r := r, inPos := 0, outPos := p } oR oF
    (callGeo hgR) (hb.toI 0 p) hrel (Nat.min_le_right _ _) hnfF hneF
  rw [← hrunF, show run _ _ _ oR = callRun r inp oR p budget flagsR from rfl] at hmain
  rw [hEF]
  generalize callRun r inp oF (base + p) (min budget (W - p)) flagsF = RF at *
  generalize callRun r inp oR p budget flagsR = RR at *
  obtain ⟨stF, cF, oF'⟩ := RF
  obtain ⟨stR, cR, oR'⟩ := RR
  obtain ⟨hst, hc, hrel'⟩ := hmain
  dsimp only at hst hc hrel' hszF hadvR ⊢
  subst hst hc
  have hpe : cR.outPos ≤ W := Nat.le_trans hadvR.geo.outLe (hW ▸ Nat.min_le_right _ _ : min (p + budget) oR.size ≤ W)
  have hpp : p ≤ cR.outPos := hadvR.mono
  obtain ⟨e1, e2, e3, e4, e5, e6, e7⟩ := epilogue_ring hfl base p (min (p + budget) oR.size) stF cR oR' oF'
    (extract_ring hrel' hpe (hszF ▸ Nat.le_trans (Nat.add_le_add_left hpe base) hbase))
  refine ⟨e1, e2, e3, e4, ?_⟩
  rw [e5, e6, e7, Nat.add_sub_cancel' hpp]
  exact hrel'

end Model.Core
