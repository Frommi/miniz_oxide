/-
A ring output buffer against a flat one. The run of the automaton with a wrapping buffer of `W`
bytes, in the lap that started at flat position `base`, is the run with a flat buffer whose output
cursor is `base` further — as long as the flat run never finds a distance reaching before the start
of the data (a ring cannot notice that) — and the ring holds the last `W` bytes of the flat buffer.
First the states that do not write: their transition does not depend on where the output cursor
stands, on the buffer, or on the flags that only the epilogue and the starved exit read
(`stepAt_quiet`); `Lemmas/CoreFlags` uses the same statement. No property statements here.
-/
import MinizProof.Lemmas.CoreBnd
namespace Model.Core
open Spec

-- sealed while shape lemmas are matched against state functions (see `Lemmas/CoreBasic`)
attribute [local irreducible] readBits decodeHuff Array.instGetElem?NatLtSize

/-- A starved exit: one of the two statuses the more-input flag chooses between. -/
def isEoi (st : Int) : Bool := st == stNeedsMoreInput || st == stFailedCannotMakeProgress

theorem eoi_isEoi (fl : Nat) : isEoi (endOfInput fl) = true := by
  unfold endOfInput; split <;> rfl

@[reducible] def Ctx.setOut (c : Ctx) (p : Nat) : Ctx := { c with outPos := p }

/-- The transition as a call sees it whose output cursor stands at `p`, whose buffer is `o` and
    whose starved exits report `s`. -/
def Step.place (p : Nat) (o : Array UInt8) (s : Int) : Step → Step
  | .cont c _ => .cont (c.setOut p) o
  | .fin st c _ => .fin (if isEoi st then s else st) (c.setOut p) o

theorem readBits_setOut (inp : Array UInt8) (amount p : Nat) (c : Ctx) :
    readBits inp amount (c.setOut p) = ((readBits inp amount c).1.setOut p, (readBits inp amount c).2) := by
  rw [readBits_eq, readBits_eq]
  exact pullAux_map (Ctx.setOut · p) (fun _ => rfl) (fun _ => rfl) (fun _ => rfl) (fun _ _ => rfl) (fun _ _ => rfl) _ c

theorem decodeHuff_setOut (inp : Array UInt8) (code : Code) (p : Nat) (c : Ctx) :
    decodeHuff inp code (c.setOut p) = ((decodeHuff inp code c).1.setOut p, (decodeHuff inp code c).2) := by
  rw [decodeHuff_eq, decodeHuff_eq]
  exact pullAux_map (Ctx.setOut · p) (fun _ => rfl) (fun _ => rfl) (fun _ => rfl) (fun _ _ => rfl) (fun _ _ => rfl) _ c

theorem initTree_setOut (p : Nat) (c : Ctx) (l d : Array Nat) :
    initTree (c.setOut p) l d = (initTree c l d).setOut p := by
  unfold initTree
  simp only [apply_ite (Ctx.setOut · p)]
  rfl

variable {e e' : Env} {c : Ctx} {p : Nat} {o o' : Array UInt8}

theorem place_eoi (fl : Nat) (s : Int) (c : Ctx) (p : Nat) (o o' : Array UInt8) :
    Step.fin s (c.setOut p) o' = (Step.fin (endOfInput fl) c o).place p o' s :=
  (congrArg (Step.fin · (c.setOut p) o') (if_pos (eoi_isEoi fl))).symm

/-- `map_read`, `map_byte` for `Step.place`: the starved exit of the one call is that of the other. -/
theorem quiet_read {r r' : Ctx × Option Nat} (hr : r' = (r.1.setOut p, r.2)) {s : Int} {k k' : Ctx → Nat → Step}
    (hk : ∀ c1 v, k' (c1.setOut p) v = (k c1 v).place p o' s := by intros; rfl) :
    (match (generalizing := false) r' with
      | (c1, none) => Step.fin s c1 o'
      | (c1, some v) => k' c1 v) =
    (match (generalizing := false) r with
      | (c1, none) => Step.fin e.eoi c1 o
      | (c1, some v) => k c1 v).place p o' s :=
  map_read hr (fun _ => place_eoi ..) hk

theorem quiet_byte {x? : Option UInt8} {s : Int} {k k' : UInt8 → Step}
    (hk : ∀ b, k' b = (k b).place p o' s := by intros; rfl) :
    (match (generalizing := false) x? with
      | none => Step.fin s (c.setOut p) o'
      | some b => k' b) =
    (match (generalizing := false) x? with
      | none => Step.fin e.eoi c o
      | some b => k b).place p o' s :=
  map_byte rfl (place_eoi ..) hk

theorem place_initTree {c' c0 : Ctx} (l d : Array Nat) (s : Int) (h : c' = c0.setOut p := by rfl) :
    Step.cont (initTree c' l d) o' = (Step.cont (initTree c0 l d) o).place p o' s := by
  rw [h, initTree_setOut]; rfl

def Writes (s : Nat) : Prop :=
  s = sWriteSymbol ∨ s = sRawStoreFirstByte ∨ s = sRawMemcpy2 ∨ s = sHuffDecodeOuterLoop2 ∨ s = sWriteLenBytesToEnd

/-- What the states that do not write can tell about a call (`e`, cursor at `q`) looks the same in
    another (`e'`, cursor at `p`): the input, the zlib and block-boundary flags, the room left
    (`RawMemcpy1` tests it for zero), and whether the window is too small for the one a zlib
    header announces (at most `2 ^ 15`). -/
structure Alike (e e' : Env) (q p : Nat) : Prop where
  inp  : e'.inp = e.inp
  zlib : hasFlag e'.flags fParseZlib = hasFlag e.flags fParseZlib
  stop : hasFlag e'.flags fStopOnBlockBoundary = hasFlag e.flags fStopOnBlockBoundary
  room : e'.outEnd - p = e.outEnd - q
  win  : ∀ k, k ≤ 15 →
    (e'.ring && decide (max e'.outLen 1 < 2 ^ k)) = (e.ring && decide (max e.outLen 1 < 2 ^ k))

theorem Alike.refl (e : Env) (q : Nat) : Alike e e q q := ⟨rfl, rfl, rfl, rfl, fun _ _ => rfl⟩

/-- a valid zlib header announces a window of at most `2 ^ 15`; an invalid one is rejected anyway -/
theorem quiet_ZlibFlg (h : Alike e e' c.outPos p) :
    stReadZlibFlg e' (c.setOut p) o' = (stReadZlibFlg e c o).place p o' e'.eoi := by
  unfold stReadZlibFlg
  rw [h.inp]
  refine quiet_byte fun b => ?_
  by_cases hv : zlibHeaderValid c.r.zHeader0 b.toNat = true
  · have h7 : c.r.zHeader0 / 16 ≤ 7 := by
      unfold zlibHeaderValid at hv
      simp only [Bool.and_eq_true, decide_eq_true_eq] at hv
      exact hv.1.1.2
    dsimp only
    rw [h.win _ (by omega : c.r.zHeader0 / 16 + 8 ≤ 15)]
    rfl
  · rw [Bool.not_eq_true] at hv
    dsimp only
    rw [hv]
    rfl

/-- ONE TRANSITION OF A STATE THAT DOES NOT WRITE, SEEN FROM ANOTHER CALL: move the output cursor to
    `p`, swap the buffer for `o'`, let starved exits report `e'.eoi`, and nothing else changes.
    With `e' = e`, `p = c.outPos`, `o' = o` this says the transition leaves cursor and buffer alone. -/
theorem stepAt_quiet (h : Alike e e' c.outPos p) (s : Nat) (hs : ¬ Writes s) :
    stepAt s e' (c.setOut p) o' = (stepAt s e c o).place p o' e'.eoi := by
  have hZ := quiet_ZlibFlg (o := o) (o' := o') h
  obtain ⟨i', fl', L', E'⟩ := e'
  obtain rfl : i' = e.inp := h.inp
  revert hs
  exact stepAt_cases (s := s)
    (P := fun s f => ¬ Writes s →
      f ⟨e.inp, fl', L', E'⟩ (c.setOut p) o' = (f e c o).place p o' (endOfInput fl'))
    (hStart := fun _ => by unfold stStart; rw [h.zlib]; rfl)
    (hZlibCmf := fun _ => quiet_byte)
    (hZlibFlg := fun _ => hZ)
    (hBlockHeader := fun _ => quiet_read (readBits_setOut ..)
      (hk := fun _ _ => map_ite _ (hB := map_ite _ (place_initTree ..) (map_ite _))))
    (hNoCompression := fun _ => quiet_read (readBits_setOut ..))
    (hRawHeader := fun _ => map_ite _ (map_ite _ (quiet_read (readBits_setOut ..)) quiet_byte)
      (map_ite _ (hB := map_ite _ (hB := map_ite _))))
    (hRawReadFirstByte := fun _ => quiet_read (readBits_setOut ..))
    (hRawStoreFirstByte := fun hs => absurd (.inr (.inl rfl)) hs)
    (hRawMemcpy1 := fun _ => by
      unfold stRawMemcpy1 wrBytesLeft
      rw [show E' - p = _ from h.room]
      exact map_ite _ (hB := map_ite _))
    (hRawMemcpy2 := fun hs => absurd (.inr (.inr (.inl rfl))) hs)
    (hTableSizes := fun _ => map_ite _ (quiet_read (readBits_setOut ..)) (map_ite _))
    (hHufflen := fun _ => map_ite _ (quiet_read (readBits_setOut ..)) (place_initTree ..))
    (hLitlenDist := fun _ => map_ite _
      (quiet_read (decodeHuff_setOut ..) (hk := fun _ _ => map_ite _ (hB := map_ite _)))
      (map_ite _ (hB := place_initTree ..)))
    (hExtraCodeSize := fun _ => quiet_read (readBits_setOut ..))
    (hDecodeLitlen := fun _ => quiet_read (decodeHuff_setOut ..))
    (hWriteSymbol := fun hs => absurd (.inl rfl) hs)
    (hOuterLoop1 := fun _ => map_ite _ (hB := map_ite _))
    (hExtraLitlen := fun _ => quiet_read (readBits_setOut ..))
    (hDecodeDistance := fun _ => quiet_read (decodeHuff_setOut ..) (hk := fun _ _ => map_ite _))
    (hExtraDistance := fun _ => quiet_read (readBits_setOut ..))
    (hOuterLoop2 := fun hs => absurd (.inr (.inr (.inr (.inl rfl)))) hs)
    (hWriteLenBytes := fun hs => absurd (.inr (.inr (.inr (.inr rfl)))) hs)
    (hBlockDone := fun _ => by
      unfold stBlockDone
      rw [h.zlib, h.stop]
      exact map_ite _ (map_ite _) (map_ite _))
    (hAdler32 := fun _ => map_ite _ (map_ite _ (quiet_read (readBits_setOut ..)) quiet_byte))
    (hDone := fun _ => rfl) (hFailed := fun _ _ _ => rfl)

theorem stepAt_keeps {s : Nat} (hs : ¬ Writes s) :
    stepAt s e c o = (stepAt s e c o).place c.outPos o e.eoi :=
  stepAt_quiet (Alike.refl e c.outPos) s hs

theorem initTree_outPos' (c : Ctx) (l d : Array Nat) : (initTree c l d).outPos = c.outPos := initTree_outPos c l d

/-! ### The states that write: the ring holds the last `W` bytes of the flat buffer -/

/-- Ring content against flat content, for the lap that started at flat position `base`, with the
    ring's write cursor at `p`: below `p` the current lap, from `p` on the previous lap. -/
def RingRel (W base p : Nat) (oR oF : Array UInt8) : Prop :=
  oR.size = W ∧ (∀ i, i < p → oR[i]? = oF[base + i]?) ∧
  (∀ i, p ≤ i → i < W → W ≤ base + i → oR[i]? = oF[base + i - W]?)

theorem RingRel.write {W base p : Nat} {oR oF : Array UInt8} (h : RingRel W base p oR oF) (v : UInt8)
    (hp : p < W) (hF : base + p < oF.size) :
    RingRel W base (p + 1) (oR.setIfInBounds p v) (oF.setIfInBounds (base + p) v) := by
  obtain ⟨hs, h1, h2⟩ := h
  refine ⟨Array.size_setIfInBounds.trans hs, fun i hi => ?_, fun i hi hiW hb => ?_⟩
  · by_cases he : i = p
    · rw [he, Array.getElem?_setIfInBounds_self_of_lt (hs ▸ hp), Array.getElem?_setIfInBounds_self_of_lt hF]
    · rw [Array.getElem?_setIfInBounds_ne (Ne.symm he), Array.getElem?_setIfInBounds_ne (by omega)]
      exact h1 i (by omega)
  · rw [Array.getElem?_setIfInBounds_ne (by omega), Array.getElem?_setIfInBounds_ne (by omega)]
    exact h2 i (by omega) hiW hb

theorem RingRel.copyIn {W base : Nat} (inp : Array UInt8) (n : Nat) : ∀ (p q : Nat) (oR oF : Array UInt8),
    RingRel W base p oR oF → p + n ≤ W → base + p + n ≤ oF.size →
    RingRel W base (p + n) (Model.Core.copyIn inp oR p q n) (Model.Core.copyIn inp oF (base + p) q n) := by
  induction n with
  | zero => intro p q oR oF h _ _; exact h
  | succ n ih =>
    intro p q oR oF h hp hF
    unfold Model.Core.copyIn
    have := ih (p + 1) (q + 1) _ _ (h.write (inp.getD q 0) (by omega) (by omega)) (by omega)
      (by rw [Array.size_setIfInBounds]; omega)
    rw [Nat.add_right_comm] at this
    exact this

theorem RingRel.back {W base p dist : Nat} {oR oF : Array UInt8} (h : RingRel W base p oR oF) (hd1 : 1 ≤ dist)
    (hdW : dist ≤ W) (hp : p < W) (hdb : dist ≤ base + p) : oR[(p + W - dist) % W]? = oF[base + p - dist]? := by
  by_cases hc : dist ≤ p
  · rw [Nat.sub_add_comm hc, Nat.add_mod_right, Nat.mod_eq_of_lt (Nat.lt_of_le_of_lt (Nat.sub_le _ _) hp),
      h.2.1 (p - dist) (Nat.sub_lt_of_pos_le hd1 hc), Nat.add_sub_assoc hc]
  · have hlt : p + W - dist < W := by omega
    rw [Nat.mod_eq_of_lt hlt, h.2.2 (p + W - dist) (by omega) hlt (by omega),
      ← Nat.add_sub_assoc (Nat.le_trans hdW (Nat.le_add_left W p)), ← Nat.add_assoc, Nat.sub_add_comm hdb,
      Nat.add_sub_cancel]

theorem RingRel.copyBytes {W base dist LF : Nat} (hd1 : 1 ≤ dist) (hdW : dist ≤ W) (n : Nat) :
    ∀ (p : Nat) (oR oF : Array UInt8) (srcR : Nat),
    RingRel W base p oR oF → p + n ≤ W → base + p + n ≤ oF.size → dist ≤ base + p →
    srcR % W = (p + W - dist) % W →
    RingRel W base (p + n) (Model.Core.copyBytes oR p srcR W true n)
      (Model.Core.copyBytes oF (base + p) (base + p - dist) LF false n) := by
  induction n with
  | zero => intro p oR oF srcR h _ _ _ _; exact h
  | succ n ih =>
    intro p oR oF srcR h hp hF hdb hsrc
    have hpW : p < W := Nat.lt_of_lt_of_le (Nat.lt_add_of_pos_right (Nat.succ_pos n)) hp
    have hpF : base + p < oF.size := Nat.lt_of_lt_of_le (Nat.lt_add_of_pos_right (Nat.succ_pos n)) hF
    have hbyte : oR.getD (srcR % W) 0 = oF.getD (base + p - dist) 0 := by
      simp only [Array.getD_eq_getD_getElem?, hsrc, h.back hd1 hdW hpW hdb]
    have hsrc' : (srcR + 1) % W = (p + 1 + W - dist) % W := by
      rw [show p + 1 + W - dist = (p + W - dist) + 1 by omega, Nat.add_mod, hsrc, ← Nat.add_mod]
    unfold Model.Core.copyBytes
    simp only [↓reduceIte, Bool.false_eq_true]
    rw [hbyte]
    have := ih (p + 1) _ _ (srcR + 1) (h.write (oF.getD (base + p - dist) 0) hpW hpF) (by omega)
      (by rw [Array.size_setIfInBounds]; omega) (Nat.le_succ_of_le hdb) hsrc'
    rw [Nat.add_right_comm, show base + (p + 1) - dist = base + p - dist + 1 from Nat.sub_add_comm (m := 1) hdb] at this
    exact this

/-- flat view of a ring context: output cursor `base` further -/
@[reducible] def U (base : Nat) (c : Ctx) : Ctx := c.setOut (base + c.outPos)

structure RingFlat (eR eF : Env) (W base : Nat) : Prop where
  inp   : eF.inp = eR.inp
  zlib  : hasFlag eF.flags fParseZlib = hasFlag eR.flags fParseZlib
  stop  : hasFlag eF.flags fStopOnBlockBoundary = hasFlag eR.flags fStopOnBlockBoundary
  eoi   : eF.eoi = eR.eoi
  ringR : eR.ring = true
  ringF : eF.ring = false
  lenR  : eR.outLen = W
  endF  : eF.outEnd = base + eR.outEnd
  big   : 32768 ≤ W

variable {eR eF : Env} {W base : Nat} {oR oF : Array UInt8}

theorem RingFlat.room (h : RingFlat eR eF W base) (q : Nat) : eF.outEnd - (base + q) = eR.outEnd - q := by
  rw [h.endF]; omega

theorem RingFlat.alike (h : RingFlat eR eF W base) (q : Nat) : Alike eR eF q (base + q) where
  inp := h.inp
  zlib := h.zlib
  stop := h.stop
  room := h.room q
  win k hk := by
    have : 2 ^ k ≤ 2 ^ 15 := Nat.pow_le_pow_right (by decide) hk
    have hb := h.big
    rw [h.ringF, h.ringR, h.lenR, decide_eq_false (by omega : ¬ max W 1 < 2 ^ k)]
    rfl

def StepRel (W base : Nat) : Step → Step → Prop
  | .cont cR oR, .cont cF oF => cF = U base cR ∧ RingRel W base cR.outPos oR oF
  | .fin s cR oR, .fin s' cF oF => s = s' ∧ cF = U base cR ∧ RingRel W base cR.outPos oR oF
  | _, _ => False

theorem StepRel.of_quiet {S : Step} {q : Nat} {s : Int} (hrel : RingRel W base q oR oF)
    (hfix : S = S.place q oR s) : StepRel W base S (S.place (base + q) oF s) := by
  cases S with
  | cont c' o' =>
    injection hfix with hc ho
    have hq : c'.outPos = q := congrArg Ctx.outPos hc
    exact ⟨by rw [← hq], by rw [hq, ho]; exact hrel⟩
  | fin st c' o' =>
    injection hfix with hst hc ho
    have hq : c'.outPos = q := congrArg Ctx.outPos hc
    exact ⟨hst, by rw [← hq], by rw [hq, ho]; exact hrel⟩

theorem StepRel.ite (q : Prop) [Decidable q] {A B A' B' : Step} (hA : q → StepRel W base A A')
    (hB : ¬ q → StepRel W base B B') : StepRel W base (if q then A else B) (if q then A' else B') := by
  by_cases hq : q
  · rw [if_pos hq, if_pos hq]; exact hA hq
  · rw [if_neg hq, if_neg hq]; exact hB hq

theorem RingFlat.fits (h : RingFlat eR eF W base) (hE : eR.outEnd ≤ W) (hF : eF.outEnd ≤ oF.size) {q n : Nat}
    (hn : q + n ≤ eR.outEnd) : q + n ≤ W ∧ base + q + n ≤ oF.size := by
  have := h.endF
  omega

theorem matchNext_U (n : Nat) : matchNext (U base c) n = U base (matchNext c n) :=
  congrArg (matchNext c n).setOut (Nat.add_assoc base c.outPos n)

theorem memcpyNext_U (n : Nat) : memcpyNext (U base c) n = U base (memcpyNext c n) :=
  congrArg (memcpyNext c n).setOut (Nat.add_assoc base c.outPos n)

section
variable (h : RingFlat eR eF W base) (hrel : RingRel W base c.outPos oR oF) (hE : eR.outEnd ≤ W)
  (hF : eF.outEnd ≤ oF.size)
include h hrel hE hF

theorem r_WriteSymbol : StepRel W base (stWriteSymbol eR c oR) (stWriteSymbol eF (U base c) oF) := by
  unfold stWriteSymbol wrBytesLeft
  rw [h.room]
  exact StepRel.ite _ (fun _ => ⟨rfl, hrel⟩) fun _ => StepRel.ite _
    (fun h2 => have hf := h.fits hE hF (n := 1) (Nat.lt_of_sub_pos h2); ⟨rfl, hrel.write _ hf.1 hf.2⟩)
    fun _ => ⟨rfl, rfl, hrel⟩

theorem r_RawStoreFirstByte :
    StepRel W base (stRawStoreFirstByte eR c oR) (stRawStoreFirstByte eF (U base c) oF) := by
  unfold stRawStoreFirstByte wrBytesLeft
  rw [h.room]
  refine StepRel.ite _ (fun _ => ⟨rfl, rfl, hrel⟩) fun h1 => ?_
  have hf := h.fits hE hF (n := 1) (Nat.lt_of_sub_pos (Nat.pos_of_ne_zero h1))
  exact StepRel.ite _ (fun _ => ⟨rfl, hrel.write _ hf.1 hf.2⟩) fun _ => ⟨rfl, hrel.write _ hf.1 hf.2⟩

theorem r_RawMemcpy2 (hP : c.outPos ≤ eR.outEnd) :
    StepRel W base (stRawMemcpy2 eR c oR) (stRawMemcpy2 eF (U base c) oF) := by
  rw [stRawMemcpy2_eq, stRawMemcpy2_eq, h.inp, h.eoi, h.room]
  refine StepRel.ite _ (fun _ => ⟨memcpyNext_U _, ?_⟩) fun _ => ⟨rfl, rfl, hrel⟩
  have hf := h.fits hE hF
    (Nat.add_le_of_le_sub' hP (Nat.le_trans (Nat.min_le_left _ c.r.counter) (Nat.min_le_left _ (eR.inp.size - c.inPos))))
  exact RingRel.copyIn eR.inp _ c.outPos c.inPos oR oF hrel hf.1 hf.2

/-- The match copy. The flat transition must not be the "distance reaches before the start of the
    data" one (a ring cannot notice that), and the distance is a DEFLATE distance (1..32768). -/
theorem r_Match (hP : c.outPos ≤ eR.outEnd) (hd : 1 ≤ c.r.dist ∧ c.r.dist ≤ 32768)
    (hok : c.r.dist ≤ base + c.outPos) (hLF : c.r.dist ≤ eF.outLen) :
    StepRel W base (stMatch eR c oR) (stMatch eF (U base c) oF) := by
  have hdW : c.r.dist ≤ W := Nat.le_trans hd.2 h.big
  have hoobR : ¬ matchOob eR c := by
    unfold matchOob
    rw [h.ringR, h.lenR]
    exact fun hh => hh.elim (fun h1 => nomatch h1.2) (Nat.not_lt.mpr hdW)
  have hoobF : ¬ matchOob eF (U base c) := by
    unfold matchOob
    exact fun hh => hh.elim (fun h1 => Nat.not_lt.mpr hok h1.1) (Nat.not_lt.mpr hLF)
  have hsrcR : matchSrc eR c = (c.outPos + W - c.r.dist) % W := by
    unfold matchSrc; rw [h.ringR, h.lenR, Nat.max_eq_left (Nat.le_trans hd.1 hdW)]; rfl
  have hsrcF : matchSrc eF (U base c) = base + c.outPos - c.r.dist := by
    unfold matchSrc; rw [h.ringF]; rfl
  rw [stMatch_eq, stMatch_eq, if_neg hoobR, if_neg hoobF, h.room]
  refine StepRel.ite _ (fun _ => ⟨rfl, hrel⟩) fun _ => StepRel.ite _ (fun _ => ⟨rfl, rfl, hrel⟩) fun _ =>
    ⟨matchNext_U _, ?_⟩
  have hf := h.fits hE hF (Nat.add_le_of_le_sub' hP (Nat.min_le_left _ c.r.counter))
  rw [hsrcR, hsrcF, h.ringR, h.ringF, h.lenR, Nat.max_eq_left (Nat.le_trans hd.1 hdW)]
  exact RingRel.copyBytes hd.1 hdW _ c.outPos oR oF _ hrel hf.1 hf.2 hok (Nat.mod_mod _ _)

end

theorem step_ring (h : RingFlat eR eF W base) (gR : Geo eR c oR) (hI : I c) (hrel : RingRel W base c.outPos oR oF)
    (hE : eR.outEnd ≤ W) (hF : eF.outEnd ≤ oF.size)
    (hok : (c.r.state = sHuffDecodeOuterLoop2 ∨ c.r.state = sWriteLenBytesToEnd) →
      c.r.dist ≤ base + c.outPos ∧ c.r.dist ≤ eF.outLen) :
    StepRel W base (step eR c oR) (step eF (U base c) oF) := by
  by_cases hw : Writes c.r.state
  · rcases hw with hs | hs | hs | hs
    · rw [step_WriteSymbol hs, step_WriteSymbol (c := U base c) hs]
      exact r_WriteSymbol h hrel hE hF
    · rw [step_RawStoreFirstByte hs, step_RawStoreFirstByte (c := U base c) hs]
      exact r_RawStoreFirstByte h hrel hE hF
    · rw [step_RawMemcpy2 hs, step_RawMemcpy2 (c := U base c) hs]
      exact r_RawMemcpy2 h hrel hE hF gR.outLe
    · rw [hs.elim step_Match1 step_Match2, hs.elim (step_Match1 (c := U base c)) (step_Match2 (c := U base c))]
      exact r_Match h hrel hE hF gR.outLe (hI.2.1.2.2.2 hs) (hok hs).1 (hok hs).2
  · show StepRel W base _ (stepAt c.r.state eF (c.setOut (base + c.outPos)) oF)
    rw [stepAt_quiet (o := oR) (h.alike c.outPos) _ hw, h.eoi]
    exact StepRel.of_quiet hrel (stepAt_keeps hw)

theorem run_failed (e : Env) (f : Nat) (c : Ctx) (o : Array UInt8) (hF : sDoneForever < c.r.state) :
    (run e f c o).1 = stModelError ∨ (run e f c o).1 = stFailed := by
  cases f with
  | zero => exact Or.inl rfl
  | succ f =>
    rw [run]
    have : step e c o = .fin stFailed c o := by unfold step; exact stepAt_failed _ hF e c o
    rw [this]; exact Or.inr rfl

/-- The whole run, ring against flat: unless the flat run fails (in particular on a distance that
    reaches before the start of the data, which a ring cannot notice), both end with the same status,
    in related contexts, and the ring holds the last `W` bytes the flat run produced. -/
theorem run_ring (h : RingFlat eR eF W base) (hE : eR.outEnd ≤ W) : ∀ (f : Nat) (c : Ctx) (oR oF : Array UInt8),
    Geo eR c oR → I c → RingRel W base c.outPos oR oF → eF.outEnd ≤ oF.size →
    (run eF f (U base c) oF).1 ≠ stFailed → (run eF f (U base c) oF).1 ≠ stModelError →
    (run eF f (U base c) oF).1 = (run eR f c oR).1 ∧
    (run eF f (U base c) oF).2.1 = U base (run eR f c oR).2.1 ∧
    RingRel W base (run eR f c oR).2.1.outPos (run eR f c oR).2.2 (run eF f (U base c) oF).2.2 := by
  intro f
  induction f with
  | zero => intro c oR oF _ _ hrel _ _ _; exact ⟨rfl, rfl, hrel⟩
  | succ f ih =>
    intro c oR oF gR hI hrel hF hno hnm
    have gF : Geo eF (U base c) oF :=
      ⟨by rw [h.inp]; exact gR.inLe, by rw [h.endF]; show base + c.outPos ≤ base + eR.outEnd; have := gR.outLe; omega, hF⟩
    have hokR := step_ok gR
    have hokF := step_ok gF
    have hsi := step_I (e := eR) (out := oR) gR hI
    -- the flat transition is not the out-of-bounds one
    have hok : (c.r.state = sHuffDecodeOuterLoop2 ∨ c.r.state = sWriteLenBytesToEnd) →
        c.r.dist ≤ base + c.outPos ∧ c.r.dist ≤ eF.outLen := by
      intro hm
      by_cases hoob : matchOob eF (U base c)
      · exfalso
        have hstep : step eF (U base c) oF = .cont (setState (U base c) sDistanceOutOfBounds) oF := by
          rw [hm.elim (step_Match1 (c := U base c)) (step_Match2 (c := U base c)), stMatch_eq, if_pos hoob]
        rw [run, hstep] at hno hnm
        rcases run_failed eF f (setState (U base c) sDistanceOutOfBounds) oF (by show sDoneForever < sDistanceOutOfBounds; decide) with h' | h'
        · exact hnm h'
        · exact hno h'
      · unfold matchOob at hoob
        rw [h.ringF] at hoob
        simp at hoob
        exact hoob
    have hsr := step_ring h gR hI hrel hE hF hok
    rw [run, run] at *
    cases hR : step eR c oR with
    | cont cR' oR' =>
      cases hFs : step eF (U base c) oF with
      | cont cF' oF' =>
        rw [hR, hFs] at hsr
        rw [hR] at hokR hsi
        rw [hFs] at hokF hno hnm
        obtain ⟨hc, hrel'⟩ := hsr
        subst hc
        have hsz : oF'.size = oF.size := hokF.frame.1
        exact ih cR' oR' oF' hokR.geo hsi.1 hrel' (by rw [hsz]; exact hF) hno hnm
      | fin st cF' oF' => rw [hR, hFs] at hsr; exact absurd hsr id
    | fin st cR' oR' =>
      cases hFs : step eF (U base c) oF with
      | cont cF' oF' => rw [hR, hFs] at hsr; exact absurd hsr id
      | fin st' cF' oF' =>
        rw [hR, hFs] at hsr
        obtain ⟨hs, hc, hrel'⟩ := hsr
        exact ⟨hs.symm, hc, hrel'⟩

end Model.Core
