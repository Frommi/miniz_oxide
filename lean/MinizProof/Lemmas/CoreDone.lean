/-
`Done` IS ABSORBING for the decoder model: once a call has reported `Done`, every later call with
the same flag word — whatever input and output it is offered — reports `Done` again, consumes
nothing, writes nothing and leaves the output buffer as it is (`DoneForever` in core.rs; with the
zlib checksum the comparison made at the first `Done` is made again and succeeds again).
-/
import MinizProof.Lemmas.CoreReach
import MinizProof.Lemmas.Checksum

namespace Model.Core
open Spec

/-- the registers a finished decoder is left with: state `DoneForever`, and — when the call computes a
    checksum of a zlib stream — a running checksum that equals the trailer -/
def DoneRegs (flags : Nat) (r : Regs) : Prop :=
  r.state = sDoneForever ∧
  (needAdler flags = true → hasFlag flags fParseZlib = true → adler32 r.checkAdler32 [] = r.zAdler32)

theorem adler32_idem (x : Nat) (l : List UInt8) : adler32 (adler32 x l) [] = adler32 x l := by
  rw [Spec.adler32_append, List.append_nil]

theorem epilogue_done_checked {flags outPos outEnd : Nat} {st : Int} {c : Ctx} {out : Array UInt8}
    (h : (epilogue flags outPos outEnd st c out).status = stDone) :
    needAdler flags = true → hasFlag flags fParseZlib = true →
      adler32 (epilogue flags outPos outEnd st c out).r.checkAdler32 [] =
        (epilogue flags outPos outEnd st c out).r.zAdler32 := by
  intro hn hz
  have hd : exitStatus st c outEnd = stDone :=
    ((epilogue_status flags outPos outEnd st c out).resolve_right fun h' =>
      absurd (h'.1.symm.trans h) (by decide)).symm.trans h
  have hc : (needAdler flags && decide (exitStatus st c outEnd ≥ 0)) = true := by rw [hn, hd]; rfl
  rw [epilogue_status_eq, hc, hd, hz] at h
  rw [epilogue_r, hc, if_pos rfl]
  show adler32 (adler32 _ _) [] = (exitRegs st c).zAdler32
  rw [adler32_idem]
  refine Decidable.by_contra fun hne => ?_
  rw [bne_iff_ne.mpr hne] at h
  exact absurd h (by decide)

theorem done_leaves_doneRegs (r : Regs) (inp out : Array UInt8) (outPos budget flags : Nat)
    (hd : (decompress r inp out outPos budget flags).status = stDone) :
    DoneRegs flags (decompress r inp out outPos budget flags).r := by
  by_cases hg : badGeometry flags out.size outPos = true
  · rw [decompress_bad _ _ _ _ _ _ hg] at hd
    exact absurd hd (by show ¬ (stBadParam = stDone); decide)
  · have hg : badGeometry flags out.size outPos = false := eq_false_of_ne_true hg
    have htot := callRun_fin r inp out outPos budget flags hg
    rw [decompress_eq _ _ _ _ _ _ hg] at hd ⊢
    rw [epilogue_done hd] at htot
    exact ⟨by rw [epilogue_state, epilogue_done hd]; exact htot.done, epilogue_done_checked hd⟩

theorem doneRegs_call (r : Regs) (inp out : Array UInt8) (outPos budget flags : Nat)
    (hg : badGeometry flags out.size outPos = false) (h : DoneRegs flags r) :
    (decompress r inp out outPos budget flags).status = stDone ∧
    (decompress r inp out outPos budget flags).consumed = 0 ∧
    (decompress r inp out outPos budget flags).written = 0 ∧
    (decompress r inp out outPos budget flags).out = out ∧
    DoneRegs flags (decompress r inp out outPos budget flags).r := by
  have hrun : callRun r inp out outPos budget flags = (stDone, { r := r, inPos := 0, outPos := outPos }, out) := by
    unfold callRun
    rw [callFuel, run, step_DoneForever (by exact h.1)]
  have hst := done_leaves_doneRegs r inp out outPos budget flags
  rw [decompress_eq _ _ _ _ _ _ hg, hrun] at hst ⊢
  dsimp only at hst ⊢
  have hstatus : (epilogue flags outPos (min (outPos + budget) out.size) stDone { r := r, inPos := 0, outPos := outPos } out).status = stDone := by
    rw [epilogue_status_eq, exitStatus_of_ne _ _ _ (by decide)]
    refine if_neg fun hc => ?_
    simp only [Bool.and_eq_true, bne_iff_ne, ne_eq, beq_iff_eq] at hc
    apply hc.2.2
    show adler32 r.checkAdler32 (out.extract outPos outPos).toList = r.zAdler32
    rw [show (out.extract outPos outPos).toList = [] by simp]
    exact h.2 hc.1.1 hc.2.1.2
  exact ⟨hstatus, by rw [epilogue_consumed]; exact Nat.zero_sub _, by rw [epilogue_written]; exact Nat.sub_self _,
    epilogue_out _ _ _ _ _ _, hst hstatus⟩

end Model.Core
