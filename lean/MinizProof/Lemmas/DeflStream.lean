/-
The loop of `deflate()` (`Model.Defl.loop`) for every script of engine answers. One round is split
into its exit decision (`loopExit`) and the recursion (`loop_cons`), so that the two inductions over
the script — where an answer comes from (`loop_eq`), and that the script is not outrun
(`loop_terminates`) — each see one `Option` instead of the nest of `if`s. Used by Props/C14.
`Option.elim_ite` is shared with the twin file about `inflate()`, hence the import.
-/
import MinizProof.Model.DeflStream
import MinizProof.Lemmas.InflStream
namespace Model.Defl

/-- The result code with which a round of the loop of `deflate()` returns after the engine answered
    `st`, with `inLeft`, `outLeft` remaining and `c`, `w` moved so far; `none` when it goes round again. -/
def loopExit (flush : Nat) (st : Int) (inLeft outLeft c w : Nat) : Option Int :=
  if st = stBadParam then some rParam
  else if st = stPutBufFailed then some rStream
  else if st = stDone then some rStreamEnd
  else if outLeft = 0 then some rOk
  else if inLeft = 0 ∧ flush ≠ flFinish then (if flush ≠ flNone ∨ c > 0 ∨ w > 0 then some rOk else some rBuf)
  else none

theorem loopExit_spec {flush : Nat} {st : Int} {inLeft outLeft c w : Nat} {k : Int}
    (h : loopExit flush st inLeft outLeft c w = some k) :
    (k = rParam → st = stBadParam) ∧ (k = rStream → st = stPutBufFailed) ∧ (k = rStreamEnd → st = stDone) ∧
    (k = rOk → outLeft = 0 ∨ flush ≠ flFinish ∧ (flush ≠ flNone ∨ c > 0 ∨ w > 0)) := by
  unfold loopExit at h
  unfold rParam rStream rStreamEnd rOk
  by_cases h1 : st = stBadParam
  · rw [if_pos h1] at h; cases h; unfold rParam; omega
  rw [if_neg h1] at h
  by_cases h2 : st = stPutBufFailed
  · rw [if_pos h2] at h; cases h; unfold rStream; omega
  rw [if_neg h2] at h
  by_cases h3 : st = stDone
  · rw [if_pos h3] at h; cases h; unfold rStreamEnd; omega
  rw [if_neg h3] at h
  by_cases h4 : outLeft = 0
  · rw [if_pos h4] at h; cases h; unfold rOk; omega
  rw [if_neg h4] at h
  by_cases h5 : inLeft = 0 ∧ flush ≠ flFinish
  · rw [if_pos h5] at h
    by_cases h6 : flush ≠ flNone ∨ c > 0 ∨ w > 0
    · rw [if_pos h6] at h; cases h; unfold rOk; omega
    · rw [if_neg h6] at h; cases h; unfold rBuf; omega
  · rw [if_neg h5] at h; cases h

theorem loopExit_none {flush : Nat} {st : Int} {inLeft outLeft c w : Nat}
    (h : loopExit flush st inLeft outLeft c w = none) :
    st ≠ stBadParam ∧ st ≠ stPutBufFailed ∧ st ≠ stDone := by
  unfold loopExit at h
  by_cases h1 : st = stBadParam
  · rw [if_pos h1] at h; cases h
  by_cases h2 : st = stPutBufFailed
  · rw [if_neg h1, if_pos h2] at h; cases h
  by_cases h3 : st = stDone
  · rw [if_neg h1, if_neg h2, if_pos h3] at h; cases h
  exact ⟨h1, h2, h3⟩

theorem loop_contract {flush inLeft outLeft c w : Nat} {calls : List (Nat × Nat)} {r : Resp} {rs : List Resp}
    (hb : r.cin > inLeft ∨ r.cout > outLeft) : loop flush inLeft outLeft c w calls (r :: rs) = .contract := by
  rw [loop, if_pos hb]

theorem loop_cons {flush inLeft outLeft c w : Nat} {calls : List (Nat × Nat)} {r : Resp} {rs : List Resp}
    (hb : ¬ (r.cin > inLeft ∨ r.cout > outLeft)) :
    loop flush inLeft outLeft c w calls (r :: rs) =
      (loopExit flush r.st (inLeft - r.cin) (outLeft - r.cout) (c + r.cin) (w + r.cout)).elim
        (loop flush (inLeft - r.cin) (outLeft - r.cout) (c + r.cin) (w + r.cout) (calls ++ [(inLeft, outLeft)]) rs)
        (fun k => .ok ⟨c + r.cin, w + r.cout, k⟩ (calls ++ [(inLeft, outLeft)])) := by
  rw [loop, if_neg hb]
  simp only [loopExit, Option.elim_ite, Option.elim_some, Option.elim_none]

/-- The answer of the loop is decided at the first engine response `x` on which a round exits: the
    counts are those on entry plus all the script moved up to and including `x`, within what was
    offered, and the result code is `loopExit` there. -/
theorem loop_eq (flush : Nat) : ∀ (script : List Resp) (inLeft outLeft c w : Nat) (calls : List (Nat × Nat))
    (r : Result) (cs : List (Nat × Nat)), loop flush inLeft outLeft c w calls script = .ok r cs →
    ∃ pre x rest, script = pre ++ x :: rest ∧
      r.consumed = c + ((pre ++ [x]).map Resp.cin).sum ∧ r.consumed ≤ c + inLeft ∧
      r.written = w + ((pre ++ [x]).map Resp.cout).sum ∧ r.written ≤ w + outLeft ∧
      loopExit flush x.st (c + inLeft - r.consumed) (w + outLeft - r.written) r.consumed r.written = some r.status := by
  intro script
  induction script with
  | nil => intro inLeft outLeft c w calls r cs h; rw [loop] at h; cases h
  | cons x xs ih =>
    intro inLeft outLeft c w calls r cs h
    by_cases hb : x.cin > inLeft ∨ x.cout > outLeft
    · rw [loop_contract hb] at h; cases h
    rw [loop_cons hb] at h
    cases hx : loopExit flush x.st (inLeft - x.cin) (outLeft - x.cout) (c + x.cin) (w + x.cout) with
    | none =>
      rw [hx, Option.elim_none] at h
      obtain ⟨pre, y, rest, e, hc, hcb, hw, hwb, hk⟩ := ih _ _ _ _ _ _ _ h
      have ec : c + x.cin + (inLeft - x.cin) = c + inLeft := by omega
      have ew : w + x.cout + (outLeft - x.cout) = w + outLeft := by omega
      rw [ec, ew] at hk
      refine ⟨x :: pre, y, rest, by rw [e]; rfl, ?_, by omega, ?_, by omega, hk⟩
      · rw [hc, List.cons_append, List.map_cons, List.sum_cons, Nat.add_assoc]
      · rw [hw, List.cons_append, List.map_cons, List.sum_cons, Nat.add_assoc]
    | some k =>
      rw [hx, Option.elim_some] at h; cases h
      refine ⟨[], x, xs, rfl, rfl, by show c + x.cin ≤ c + inLeft; omega, rfl, by show w + x.cout ≤ w + outLeft; omega, ?_⟩
      show loopExit _ _ (c + inLeft - (c + x.cin)) (w + outLeft - (w + x.cout)) _ _ = some k
      rw [Nat.add_sub_add_left, Nat.add_sub_add_left, hx]

/-- Termination: if every engine response is a TDEFLStatus and every `Okay` response makes
    progress (consumes or writes something), the loop answers within `inLeft + outLeft + 1` engine calls. -/
theorem loop_terminates (flush : Nat) : ∀ (script : List Resp) (inLeft outLeft c w : Nat) (calls : List (Nat × Nat)),
    (∀ x ∈ script, (x.st = stOkay ∧ x.cin + x.cout > 0) ∨ x.st = stDone ∨ x.st = stBadParam ∨ x.st = stPutBufFailed) →
    inLeft + outLeft + 1 ≤ script.length →
    ∀ cs, loop flush inLeft outLeft c w calls script ≠ .stuck cs := by
  intro script
  induction script with
  | nil => intro inLeft outLeft c w calls _ hl; simp at hl
  | cons x xs ih =>
    intro inLeft outLeft c w calls hprog hl cs
    by_cases hb : x.cin > inLeft ∨ x.cout > outLeft
    · rw [loop_contract hb]; exact Outcome.noConfusion
    rw [loop_cons hb]
    cases hx : loopExit flush x.st (inLeft - x.cin) (outLeft - x.cout) (c + x.cin) (w + x.cout) with
    | some k => exact Outcome.noConfusion
    | none =>
      obtain ⟨h1, h2, h3⟩ := loopExit_none hx
      have hp : x.cin + x.cout > 0 := by
        rcases hprog x List.mem_cons_self with ⟨_, hp⟩ | hd | hbp | hpf
        · exact hp
        · exact absurd hd h3
        · exact absurd hbp h1
        · exact absurd hpf h2
      apply ih
      · intro y hy; exact hprog y (List.mem_cons_of_mem _ hy)
      · simp only [List.length_cons] at hl; omega

end Model.Defl
